/-
L0: deep-embedded straight-line limb IR over unbounded naturals, its evaluator, and a verified interval (+ trailing-zero)
analysis.  Programs of this IR are regenerated from /repo's Go source by `go2ir` on every run.
-/
namespace Voi.IR

/-- One SSA instruction. Operands are indices of earlier values (inputs first). All values are
naturals; Go's wrap-around at N bits is made explicit by `wrap _ N` after the exact operation. -/
inductive Op where
  | const (n : Nat)
  | add (a b : Nat)
  | mul (a b : Nat)
  | subw (a b n : Nat)   -- (a + 2^n - b mod 2^n) mod 2^n   : Go's wrapping subtraction at n bits
  | shr (a k : Nat)      -- a / 2^k
  | shl (a k : Nat)      -- a * 2^k   (exact; followed by `low` for the machine width)
  | low (a k : Nat)      -- a mod 2^k  (a mask the source wrote)
  | wrap (a k : Nat)     -- a mod 2^k  (the implicit wrap-around of a k-bit machine operation)
  | and (a b : Nat)
  | or (a b : Nat)
  | xor (a b : Nat)
  | lt (a b : Nat)       -- 1 if a < b else 0   (comparison results; only produced in decision-tree mode)
  | eq (a b : Nat)       -- 1 if a = b else 0
  deriving Repr, DecidableEq, Inhabited

abbrev Env := List Nat

def get (e : Env) (i : Nat) : Nat := e.getD i 0

def Op.eval (e : Env) : Op → Nat
  | .const n => n
  | .add a b => get e a + get e b
  | .mul a b => get e a * get e b
  | .subw a b n => (get e a + 2^n - get e b % 2^n) % 2^n
  | .shr a k => get e a / 2^k
  | .shl a k => get e a * 2^k
  | .low a k => get e a % 2^k
  | .wrap a k => get e a % 2^k
  | .and a b => get e a &&& get e b
  | .or a b => get e a ||| get e b
  | .xor a b => get e a ^^^ get e b
  | .lt a b => if get e a < get e b then 1 else 0
  | .eq a b => if get e a = get e b then 1 else 0

def run : List Op → Env → Env
  | [], e => e
  | op :: ops, e => run ops (e ++ [op.eval e])

/-- Abstract value: `lo ≤ v ≤ hi` and `2^tz ∣ v`. -/
structure AVal where
  lo : Nat
  hi : Nat
  tz : Nat
  deriving Repr, DecidableEq, Inhabited

abbrev AEnv := List AVal
def aget (a : AEnv) (i : Nat) : AVal := a.getD i ⟨0, 0, 0⟩

def AVal.sat (i : AVal) (v : Nat) : Prop := i.lo ≤ v ∧ v ≤ i.hi ∧ v % 2^i.tz = 0

/-- trailing zeros of a constant, capped by fuel -/
def tzc : Nat → Nat → Nat
  | 0, _ => 0
  | f+1, n => if n % 2 = 0 ∧ n ≠ 0 then tzc f (n / 2) + 1 else 0

theorem tzc_dvd : ∀ f n, n % 2^(tzc f n) = 0
  | 0, _ => Nat.mod_one _
  | f+1, n => by
    simp only [tzc]
    split
    · next h => rw [Nat.pow_succ, Nat.mul_comm, Nat.mod_mul, h.1, tzc_dvd f]
    · exact Nat.mod_one _

/-- abstract step; where it cannot exclude wrap-around or overlapping bits it falls back to the full range of the result -/
def Op.abs (a : AEnv) : Op → AVal
  | .const n => ⟨n, n, tzc 256 n⟩
  | .add x y => ⟨(aget a x).lo + (aget a y).lo, (aget a x).hi + (aget a y).hi, min (aget a x).tz (aget a y).tz⟩
  | .mul x y => ⟨(aget a x).lo * (aget a y).lo, (aget a x).hi * (aget a y).hi, (aget a x).tz + (aget a y).tz⟩
  | .subw x y n =>
    if (aget a y).hi ≤ (aget a x).lo ∧ (aget a x).hi < 2^n then
      ⟨(aget a x).lo - (aget a y).hi, (aget a x).hi - (aget a y).lo, min (min (aget a x).tz (aget a y).tz) n⟩
    else ⟨0, 2^n - 1, 0⟩
  | .shr x k => ⟨(aget a x).lo / 2^k, (aget a x).hi / 2^k, (aget a x).tz - k⟩
  | .shl x k => ⟨(aget a x).lo * 2^k, (aget a x).hi * 2^k, (aget a x).tz + k⟩
  | .low x k => if (aget a x).hi < 2^k then aget a x else ⟨0, 2^k - 1, min (aget a x).tz k⟩
  | .wrap x k => if (aget a x).hi < 2^k then aget a x else ⟨0, 2^k - 1, min (aget a x).tz k⟩
  | .and x y => ⟨0, min (aget a x).hi (aget a y).hi, 0⟩
  | .or x y =>
    if (aget a y).hi < 2^(aget a x).tz then
      ⟨(aget a x).lo + (aget a y).lo, (aget a x).hi + (aget a y).hi, min (aget a x).tz (aget a y).tz⟩
    else if (aget a x).hi < 2^(aget a y).tz then
      ⟨(aget a x).lo + (aget a y).lo, (aget a x).hi + (aget a y).hi, min (aget a x).tz (aget a y).tz⟩
    else ⟨0, 2^((max (aget a x).hi (aget a y).hi).log2 + 1) - 1, 0⟩
  | .xor x y => ⟨0, 2^((max (aget a x).hi (aget a y).hi).log2 + 1) - 1, 0⟩
  | .lt _ _ => ⟨0, 1, 0⟩
  | .eq _ _ => ⟨0, 1, 0⟩

def arun : List Op → AEnv → AEnv
  | [], a => a
  | op :: ops, a => arun ops (a ++ [op.abs a])

def Sat (e : Env) (a : AEnv) : Prop :=
  e.length = a.length ∧ ∀ i, i < a.length → (aget a i).sat (get e i)

/-- variables referenced must be in scope -/
def Op.wf (n : Nat) : Op → Bool
  | .const _ => true
  | .add a b | .mul a b | .and a b | .or a b | .xor a b | .lt a b | .eq a b => a < n && b < n
  | .subw a b _ => a < n && b < n
  | .shr a _ | .shl a _ | .low a _ | .wrap a _ => a < n

def wfProg : Nat → List Op → Bool
  | _, [] => true
  | n, op :: ops => op.wf n && wfProg (n+1) ops

theorem getD_of_le {α : Type} {l : List α} {i : Nat} (d : α) (h : l.length ≤ i) : l.getD i d = d := by
  rw [List.getD_eq_getElem?_getD, List.getElem?_eq_none h]; rfl

theorem get_append_lt {e : Env} {x i : Nat} (h : i < e.length) : get (e ++ [x]) i = get e i := by
  simp [get, List.getD, List.getElem?_append_left h]

theorem get_append_eq (e : Env) (x : Nat) : get (e ++ [x]) e.length = x := by
  simp [get, List.getD]

theorem aget_append_lt {e : AEnv} {x : AVal} {i : Nat} (h : i < e.length) : aget (e ++ [x]) i = aget e i := by
  simp [aget, List.getD, List.getElem?_append_left h]

theorem aget_append_eq (e : AEnv) (x : AVal) : aget (e ++ [x]) e.length = x := by
  simp [aget, List.getD]

theorem Sat.push {e : Env} {a : AEnv} (h : Sat e a) {v : Nat} {i : AVal} (hv : i.sat v) :
    Sat (e ++ [v]) (a ++ [i]) := by
  refine ⟨by simp [h.1], fun j hj => ?_⟩
  rw [List.length_append, List.length_singleton] at hj
  by_cases hlt : j < a.length
  · rw [aget_append_lt hlt, get_append_lt (h.1 ▸ hlt)]; exact h.2 j hlt
  · have : j = a.length := by omega
    subst this
    rw [aget_append_eq, ← h.1, get_append_eq]; exact hv

theorem mod_pow_of_le {v s t : Nat} (h : v % 2^s = 0) (hts : t ≤ s) : v % 2^t = 0 := by
  have hd : 2^t ∣ 2^s := Nat.pow_dvd_pow 2 hts
  exact Nat.mod_eq_zero_of_dvd (Nat.dvd_trans hd (Nat.dvd_of_mod_eq_zero h))

theorem or_eq_add_of_tz {x y t : Nat} (hx : x % 2^t = 0) (hy : y < 2^t) : x ||| y = x + y := by
  have hx' : x = (x / 2^t) <<< t := by
    rw [Nat.shiftLeft_eq]; exact (Nat.div_mul_cancel (Nat.dvd_of_mod_eq_zero hx)).symm
  rw [hx']
  exact (Nat.shiftLeft_add_eq_or_of_lt hy (x / 2^t)).symm

theorem subw_exact {x y n : Nat} (hyx : y ≤ x) (hx : x < 2^n) : (x + 2^n - y % 2^n) % 2^n = x - y := by
  rw [Nat.mod_eq_of_lt (Nat.lt_of_le_of_lt hyx hx), show x + 2^n - y = (x - y) + 2^n by omega, Nat.add_mod_right,
    Nat.mod_eq_of_lt (by omega)]

theorem sat_top {v hi : Nat} (h : v ≤ hi) : AVal.sat ⟨0, hi, 0⟩ v := ⟨Nat.zero_le _, h, Nat.mod_one _⟩

theorem sat_const {n t : Nat} (h : n % 2^t = 0) : AVal.sat ⟨n, n, t⟩ n := ⟨Nat.le_refl _, Nat.le_refl _, h⟩

theorem sat_add {i j : AVal} {u v : Nat} (hu : i.sat u) (hv : j.sat v) :
    AVal.sat ⟨i.lo + j.lo, i.hi + j.hi, min i.tz j.tz⟩ (u + v) := by
  refine ⟨Nat.add_le_add hu.1 hv.1, Nat.add_le_add hu.2.1 hv.2.1, ?_⟩
  rw [Nat.add_mod, mod_pow_of_le hu.2.2 (Nat.min_le_left ..), mod_pow_of_le hv.2.2 (Nat.min_le_right ..)]; rfl

theorem sat_mul {i j : AVal} {u v : Nat} (hu : i.sat u) (hv : j.sat v) :
    AVal.sat ⟨i.lo * j.lo, i.hi * j.hi, i.tz + j.tz⟩ (u * v) := by
  refine ⟨Nat.mul_le_mul hu.1 hv.1, Nat.mul_le_mul hu.2.1 hv.2.1, ?_⟩
  rw [Nat.pow_add]
  exact Nat.mod_eq_zero_of_dvd (Nat.mul_dvd_mul (Nat.dvd_of_mod_eq_zero hu.2.2) (Nat.dvd_of_mod_eq_zero hv.2.2))

/-- past the end both environments read their defaults, and 0 is in the class `⟨0, 0, 0⟩`: no scoping condition needed -/
theorem Sat.nth {e : Env} {a : AEnv} (h : Sat e a) (i : Nat) : (aget a i).sat (get e i) := by
  by_cases hi : i < a.length
  · exact h.2 i hi
  · have hi := Nat.le_of_not_lt hi
    rw [aget, get, getD_of_le _ hi, getD_of_le _ (h.1 ▸ hi)]
    exact sat_const (Nat.mod_one _)

theorem step_sound {e : Env} {a : AEnv} (h : Sat e a) (op : Op) : (op.abs a).sat (op.eval e) := by
  cases op <;> simp only [Op.abs, Op.eval]
  case const n => exact sat_const (tzc_dvd _ _)
  case add x y => exact sat_add (h.nth x) (h.nth y)
  case mul x y => exact sat_mul (h.nth x) (h.nth y)
  case subw x y n =>
    obtain ⟨hx1, hx2, hx3⟩ := h.nth x; obtain ⟨hy1, hy2, hy3⟩ := h.nth y
    split
    · next hc =>
      rw [subw_exact (by omega) (by omega)]
      refine ⟨by simp only; omega, by simp only; omega, ?_⟩
      have hm1 := mod_pow_of_le hx3 (Nat.le_trans (Nat.min_le_left _ n) (Nat.min_le_left _ (aget a y).tz))
      have hm2 := mod_pow_of_le hy3 (Nat.le_trans (Nat.min_le_left _ n) (Nat.min_le_right (aget a x).tz _))
      exact Nat.mod_eq_zero_of_dvd (Nat.dvd_sub (Nat.dvd_of_mod_eq_zero hm1) (Nat.dvd_of_mod_eq_zero hm2))
    · exact sat_top (Nat.le_sub_one_of_lt (Nat.mod_lt _ (Nat.two_pow_pos n)))
  case shr x k =>
    obtain ⟨hx1, hx2, hx3⟩ := h.nth x
    refine ⟨Nat.div_le_div_right hx1, Nat.div_le_div_right hx2, ?_⟩
    by_cases hk : k ≤ (aget a x).tz
    · refine Nat.mod_eq_zero_of_dvd (Nat.dvd_div_of_mul_dvd ?_)
      rw [← Nat.pow_add, Nat.add_sub_cancel' hk]
      exact Nat.dvd_of_mod_eq_zero hx3
    · rw [Nat.sub_eq_zero_of_le (Nat.le_of_not_le hk)]; exact Nat.mod_one _
  case shl x k => exact sat_mul (h.nth x) (sat_const (Nat.mod_self _))
  case low x k | wrap x k =>
    obtain ⟨hx1, hx2, hx3⟩ := h.nth x
    split
    · next hlt => rw [Nat.mod_eq_of_lt (by omega)]; exact ⟨hx1, hx2, hx3⟩
    · refine ⟨Nat.zero_le _, Nat.le_sub_one_of_lt (Nat.mod_lt _ (Nat.two_pow_pos k)), ?_⟩
      rw [Nat.mod_mod_of_dvd _ (Nat.pow_dvd_pow 2 (Nat.min_le_right ..))]
      exact mod_pow_of_le hx3 (Nat.min_le_left ..)
  case and x y =>
    exact sat_top (Nat.le_min.2 ⟨Nat.le_trans Nat.and_le_left (h.nth x).2.1, Nat.le_trans Nat.and_le_right (h.nth y).2.1⟩)
  case or x y =>
    have hx := h.nth x
    have hy := h.nth y
    split
    · next hc => rw [or_eq_add_of_tz hx.2.2 (Nat.lt_of_le_of_lt hy.2.1 hc)]; exact sat_add hx hy
    split
    · next hc =>
      rw [Nat.or_comm, or_eq_add_of_tz hy.2.2 (Nat.lt_of_le_of_lt hx.2.1 hc), Nat.add_comm (get e y)]
      exact sat_add hx hy
    · have := Nat.lt_log2_self (n := max (aget a x).hi (aget a y).hi)
      have := hx.2.1; have := hy.2.1
      exact sat_top (Nat.le_sub_one_of_lt (Nat.or_lt_two_pow (by omega) (by omega)))
  case xor x y =>
    have := Nat.lt_log2_self (n := max (aget a x).hi (aget a y).hi)
    have := (h.nth x).2.1; have := (h.nth y).2.1
    exact sat_top (Nat.le_sub_one_of_lt (Nat.xor_lt_two_pow (by omega) (by omega)))
  case lt x y | eq x y => split <;> exact sat_top (by decide)

theorem wfProg_cons {a : AEnv} {op : Op} {ops : List Op} (x : AVal) (h : wfProg a.length (op :: ops) = true) :
    op.wf a.length = true ∧ wfProg (a ++ [x]).length ops = true := by
  rw [List.length_append]; exact Bool.and_eq_true_iff.1 h

theorem run_sat : ∀ (ops : List Op) {e : Env} {a : AEnv}, Sat e a → Sat (run ops e) (arun ops a)
  | [], _, _, h => h
  | op :: ops, _, _, h => run_sat ops (h.push (step_sound h op))

theorem run_sound : ∀ (ops : List Op) (e : Env) (a : AEnv), Sat e a → wfProg a.length ops = true →
    Sat (run ops e) (arun ops a) :=
  fun ops _ _ h _ => run_sat ops h

theorem run_length (ops : List Op) (e : Env) : (run ops e).length = e.length + ops.length := by
  induction ops generalizing e with
  | nil => simp [run]
  | cons op ops ih => simp [run, ih]; omega

theorem run_get_lt (ops : List Op) (e : Env) (i : Nat) (h : i < e.length) : get (run ops e) i = get e i := by
  induction ops generalizing e with
  | nil => rfl
  | cons op ops ih =>
    simp only [run]
    rw [ih _ (by simp; omega), get_append_lt h]

end Voi.IR

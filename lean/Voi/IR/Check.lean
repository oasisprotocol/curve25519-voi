/-
L0: the combined checker for regenerated limb programs.  `check prog outs spec = true` (decided by kernel evaluation of
its equal `checkF`, Voi/IR/Fast) implies, for all inputs within `spec.pre`: every output is within `spec.post`; if
`spec.noWrap`, no machine-width wrap-around (`Op.wrap`) ever loses a bit; and `Σ wᵢ·outᵢ ≡ rhs(inputs) (mod M)`
(M = 0: equality).
-/
import Voi.IR.Sym
namespace Voi.IR

structure Congr where
  modulus : Int
  weights : List Int
  rhs : Poly
  deriving Repr, Inhabited

structure Spec where
  pre : List AVal
  post : List AVal
  noWrap : Bool
  congr : Option Congr
  deriving Repr, Inhabited

def inS (n : Nat) : SEnv := (List.range n).map fun i => [(1, [Atom.var i])]

/-- Σ wⱼ · value(outⱼ) as an integer -/
def lincomb (e : Env) : List Int → List Nat → Int
  | w :: ws, o :: os => w * (get e o : Int) + lincomb e ws os
  | _, _ => 0

def lincombS (s : SEnv) : List Int → List Nat → Poly
  | w :: ws, o :: os => ((sget s o).scale w).add (lincombS s ws os)
  | _, _ => []

/-- every `wrap x k` has an operand whose upper bound is below 2^k -/
def wrapsOK : List Op → AEnv → Bool
  | [], _ => true
  | op :: ops, a =>
    (match op with
     | .wrap x k => decide ((aget a x).hi < 2^k)
     | _ => true) && wrapsOK ops (a ++ [op.abs a])

/-- the scope test `o < a.length` here, and `weights.length = outs.length` in `check`, are guards against a mistyped
specification (`lincomb` stops at the shorter list without complaint); `check_sound` does not need them -/
def postOK (a : AEnv) : List Nat → List AVal → Bool
  | o :: os, b :: bs => decide (o < a.length) && decide (b.lo ≤ (aget a o).lo) && decide ((aget a o).hi ≤ b.hi) && postOK a os bs
  | [], [] => true
  | _, _ => false

def check (prog : List Op) (outs : List Nat) (spec : Spec) : Bool :=
  let n := spec.pre.length
  wfProg n prog &&
  (!spec.noWrap || wrapsOK prog spec.pre) &&
  match spec.congr with
  | none => postOK (arun prog spec.pre) outs spec.post     -- bounds only: the cheap interval run suffices
  | some c =>
    match srun prog spec.pre (inS n) with
    | none => false
    | some (a', s') =>
      postOK a' outs spec.post &&
      c.rhs.scoped n && decide (c.weights.length = outs.length) &&
      (((lincombS s' c.weights outs).add (c.rhs.scale (-1))).norm).allDiv c.modulus

/-- `Sat ins pre`, under the name the statement of `check_sound` uses -/
def PreSat (ins : Env) (pre : List AVal) : Prop :=
  ins.length = pre.length ∧ ∀ i, i < pre.length → (aget pre i).sat (get ins i)

theorem PreSat.nil : PreSat [] [] := ⟨rfl, fun _ h => absurd h (Nat.not_lt_zero _)⟩

theorem PreSat.cons {v : Nat} {a : AVal} {ins : Env} {pre : List AVal} (hv : a.sat v) (h : PreSat ins pre) :
    PreSat (v :: ins) (a :: pre) :=
  ⟨congrArg (· + 1) h.1, fun i hi => match i with
    | 0 => hv
    | i + 1 => h.2 i (Nat.lt_of_succ_lt_succ hi)⟩

theorem PreSat.cons_le {v hi : Nat} {ins : Env} {pre : List AVal} (hv : v ≤ hi) (h : PreSat ins pre) :
    PreSat (v :: ins) (⟨0, hi, 0⟩ :: pre) := h.cons (sat_top hv)

theorem PreSat.replicate {ins : Env} {hi : Nat} (h : ∀ x ∈ ins, x ≤ hi) : PreSat ins (List.replicate ins.length ⟨0, hi, 0⟩) := by
  induction ins with
  | nil => exact .nil
  | cons v ins ih => exact .cons_le (h v (List.mem_cons_self ..)) (ih fun x hx => h x (List.mem_cons_of_mem _ hx))

theorem PreSat.append {i₁ i₂ : Env} {p₁ p₂ : List AVal} (h₁ : PreSat i₁ p₁) (h₂ : PreSat i₂ p₂) :
    PreSat (i₁ ++ i₂) (p₁ ++ p₂) := by
  induction i₁ generalizing p₁ with
  | nil => cases p₁ with
    | nil => exact h₂
    | cons _ _ => cases h₁.1
  | cons v i₁ ih => cases p₁ with
    | nil => cases h₁.1
    | cons a p₁ =>
      exact .cons (h₁.2 0 (Nat.zero_lt_succ _)) (ih ⟨Nat.succ.inj h₁.1, fun i hi => h₁.2 (i + 1) (Nat.succ_lt_succ hi)⟩)

theorem inS_length (n : Nat) : (inS n).length = n := by simp [inS]

theorem sget_inS (n i : Nat) (h : i < n) : sget (inS n) i = [(1, [Atom.var i])] := by
  simp [sget, inS, List.getD, h]

theorem SSat_inS (ins : Env) : SSat ins (inS ins.length) := by
  refine ⟨by simp [inS_length], ?_⟩
  intro i hi
  rw [inS_length] at hi
  rw [sget_inS _ _ hi]
  simp [Poly.val, Mono.val, Atom.val, Poly.scoped, Mono.scoped, Atom.idx, hi]

theorem lincombS_val {e : Env} {s : SEnv} (hs : SSat e s) : ∀ (ws : List Int) (os : List Nat),
    (lincombS s ws os).val e = lincomb e ws os
  | [], _ => by simp [lincombS, lincomb, Poly.val]
  | _ :: _, [] => by simp [lincombS, lincomb, Poly.val]
  | w :: ws, o :: os => by
    simp only [lincombS, lincomb, Poly.val_add, Poly.val_scale]
    rw [(hs.nth o).1, lincombS_val hs ws os]

theorem postOK_sound {e : Env} {a : AEnv} (h : Sat e a) : ∀ (os : List Nat) (bs : List AVal),
    postOK a os bs = true →
    os.length = bs.length ∧ ∀ j, j < os.length → (aget bs j).lo ≤ get e (os.getD j 0) ∧ get e (os.getD j 0) ≤ (aget bs j).hi
  | [], [], _ => by simp
  | [], _ :: _, h' => by simp [postOK] at h'
  | _ :: _, [], h' => by simp [postOK] at h'
  | o :: os, b :: bs, h' => by
    simp only [postOK, Bool.and_eq_true, decide_eq_true_eq] at h'
    obtain ⟨⟨⟨_, h2⟩, h3⟩, h4⟩ := h'
    obtain ⟨ih1, ih2⟩ := postOK_sound h os bs h4
    refine ⟨congrArg (· + 1) ih1, fun j hj => ?_⟩
    cases j with
    | zero => exact ⟨Nat.le_trans h2 (h.nth o).1, Nat.le_trans (h.nth o).2.1 h3⟩
    | succ j => exact ih2 j (Nat.lt_of_succ_lt_succ hj)

/-- at each `wrap x k` of a concrete run the operand is below 2^k -/
def NoLossyWrap : List Op → Env → Prop
  | [], _ => True
  | op :: ops, e =>
    (match op with
     | .wrap x k => get e x < 2^k
     | _ => True) ∧ NoLossyWrap ops (e ++ [op.eval e])

theorem wrapsOK_sound : ∀ (ops : List Op) {e : Env} {a : AEnv}, Sat e a → wrapsOK ops a = true → NoLossyWrap ops e
  | [], _, _, _, _ => trivial
  | op :: ops, e, a, h, hw => by
    simp only [wrapsOK, Bool.and_eq_true] at hw
    refine ⟨?_, wrapsOK_sound ops (h.push (step_sound h op)) hw.2⟩
    cases op <;> try trivial
    exact Nat.lt_of_le_of_lt (h.nth _).2.1 (of_decide_eq_true hw.1)

theorem check_sound (prog : List Op) (outs : List Nat) (spec : Spec) (hc : check prog outs spec = true)
    (ins : Env) (hpre : PreSat ins spec.pre) :
    let e := run prog ins
    (outs.length = spec.post.length ∧
      ∀ j, j < outs.length → (aget spec.post j).lo ≤ get e (outs.getD j 0) ∧ get e (outs.getD j 0) ≤ (aget spec.post j).hi) ∧
    (spec.noWrap = true → NoLossyWrap prog ins) ∧
    (∀ c, spec.congr = some c → (lincomb e c.weights outs - c.rhs.val ins) % c.modulus = 0) := by
  intro e
  simp only [check, Bool.and_eq_true] at hc
  obtain ⟨⟨hwf, hwrap⟩, hrest⟩ := hc
  have hsat : Sat ins spec.pre := hpre
  have hW : spec.noWrap = true → NoLossyWrap prog ins := by
    intro hn
    simp [hn] at hwrap
    exact wrapsOK_sound prog hsat hwrap
  split at hrest
  · next hcn =>
    exact ⟨postOK_sound (run_sat prog hsat) outs spec.post hrest, hW, by intro c hcs; rw [hcn] at hcs; cases hcs⟩
  · next c hcs0 =>
    split at hrest
    · simp at hrest
    · next a' s' hrun =>
      have hS0 : SSat ins (inS spec.pre.length) := by rw [← hpre.1]; exact SSat_inS ins
      obtain ⟨hA, hS⟩ := srun_sound prog ins spec.pre a' (inS spec.pre.length) s' hsat hS0 hwf hrun
      simp only [Bool.and_eq_true, decide_eq_true_eq] at hrest
      obtain ⟨⟨⟨hpost, hsc⟩, _⟩, hdiv⟩ := hrest
      refine ⟨postOK_sound hA outs spec.post hpost, hW, ?_⟩
      intro c' hcs
      rw [hcs0] at hcs
      cases hcs
      -- the normalised polynomial Σ wⱼ·outⱼ − rhs has all coefficients divisible by the modulus; evaluate it
      have hv := Poly.allDiv_sound e c.modulus _ hdiv
      -- the right-hand side mentions inputs only, and those keep their positions during the run
      have hrhs : c.rhs.val e = c.rhs.val ins :=
        Poly.val_congr e ins spec.pre.length (fun i hi => run_get_lt prog ins i (hpre.1 ▸ hi)) _ hsc
      rw [Poly.val_norm, Poly.val_add, Poly.val_scale, lincombS_val hS, hrhs] at hv
      rw [Int.sub_eq_add_neg, ← Int.neg_one_mul]; exact hv

theorem check_congr {prog : List Op} {outs : List Nat} {spec : Spec} (hc : check prog outs spec = true)
    {c : Congr} (hcg : spec.congr = some c) {ins : Env} (hpre : PreSat ins spec.pre) :
    (∀ j, j < outs.length → get (run prog ins) (outs.getD j 0) ≤ (aget spec.post j).hi) ∧
    (lincomb (run prog ins) c.weights outs - c.rhs.val ins) % c.modulus = 0 :=
  have ⟨⟨_, hb⟩, _, hv⟩ := check_sound prog outs spec hc ins hpre
  ⟨fun j hj => (hb j hj).2, hv c hcg⟩

end Voi.IR

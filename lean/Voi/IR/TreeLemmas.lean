/- Two lemmas that split a nested `if` by unification only (no `simp` over the whole term), to prove statements about the
   regenerated shallow decision trees path by path. -/
namespace Voi.IR

theorem ite_l {α} {c : Prop} [Decidable c] {a b r : α} (h1 : c → a = r) (h2 : ¬c → b = r) : (if c then a else b) = r := by
  split
  · exact h1 ‹_›
  · exact h2 ‹_›

theorem sing_ite {c : Prop} [Decidable c] {a x y : Nat} (h1 : c → a = x) (h2 : ¬c → a = y) : [a] = [if c then x else y] := by
  split
  · rw [h1 ‹_›]
  · rw [h2 ‹_›]

end Voi.IR

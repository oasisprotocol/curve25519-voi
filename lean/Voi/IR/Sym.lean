/-
L0: exact symbolic values for IR programs: integer polynomials over atoms `var i` (an input or an opaque intermediate)
and `quot v k` (= ⌊value v / 2^k⌋), with verified normalisation, and the symbolic run `srun` with its soundness theorem
`srun_sound`.
-/
import Voi.IR.Basic
namespace Voi.IR

inductive Atom where
  | var (v : Nat)
  | quot (v k : Nat)
  deriving Repr, DecidableEq, Inhabited

def Atom.val (e : Env) : Atom → Int
  | .var v => (get e v : Int)
  | .quot v k => ((get e v / 2^k : Nat) : Int)

def Atom.idx : Atom → Nat
  | .var v => v
  | .quot v _ => v

abbrev Mono := List Atom
def Mono.val (e : Env) : Mono → Int
  | [] => 1
  | a :: m => a.val e * Mono.val e m

abbrev Poly := List (Int × Mono)
def Poly.val (e : Env) : Poly → Int
  | [] => 0
  | (c, m) :: p => c * Mono.val e m + Poly.val e p

theorem Mono.val_append (e : Env) (m n : Mono) : Mono.val e (m ++ n) = Mono.val e m * Mono.val e n := by
  induction m with
  | nil => simp [Mono.val]
  | cons a m ih => simp [Mono.val, ih, Int.mul_assoc]

def Poly.add (p q : Poly) : Poly := p ++ q
theorem Poly.val_add (e : Env) (p q : Poly) : (p.add q).val e = p.val e + q.val e := by
  unfold Poly.add
  induction p with
  | nil => simp [Poly.val]
  | cons t p ih => obtain ⟨c, m⟩ := t; simp [Poly.val, ih, Int.add_assoc]

def Poly.mulMono (c : Int) (m : Mono) : Poly → Poly
  | [] => []
  | (c', m') :: q => (c * c', m ++ m') :: Poly.mulMono c m q
theorem Poly.val_mulMono (e : Env) (c : Int) (m : Mono) (q : Poly) :
    (Poly.mulMono c m q).val e = c * Mono.val e m * q.val e := by
  induction q with
  | nil => simp [Poly.mulMono, Poly.val]
  | cons t q ih =>
    obtain ⟨c', m'⟩ := t
    simp [Poly.mulMono, Poly.val, ih, Mono.val_append, Int.mul_add]
    simp [Int.mul_assoc, Int.mul_left_comm]

def Poly.mul : Poly → Poly → Poly
  | [], _ => []
  | (c, m) :: p, q => (Poly.mulMono c m q).add (Poly.mul p q)
theorem Poly.val_mul (e : Env) (p q : Poly) : (p.mul q).val e = p.val e * q.val e := by
  induction p with
  | nil => simp [Poly.mul, Poly.val]
  | cons t p ih =>
    obtain ⟨c, m⟩ := t
    simp [Poly.mul, Poly.val_add, Poly.val_mulMono, ih, Poly.val, Int.add_mul]

def Poly.scale (k : Int) (p : Poly) : Poly := Poly.mulMono k [] p
theorem Poly.val_scale (e : Env) (k : Int) (p : Poly) : (p.scale k).val e = k * p.val e := by
  simp [Poly.scale, Poly.val_mulMono, Mono.val]

/-! normalisation: sort atoms in monomials, merge equal monomials, drop zeros -/

def Atom.lt : Atom → Atom → Bool
  | .var a, .var b => a < b
  | .var _, .quot _ _ => true
  | .quot _ _, .var _ => false
  | .quot a k, .quot b l => a < b || (a == b && k < l)

def Mono.ins (a : Atom) : Mono → Mono
  | [] => [a]
  | b :: m => if a.lt b then a :: b :: m else b :: Mono.ins a m
def Mono.norm : Mono → Mono
  | [] => []
  | a :: m => Mono.ins a (Mono.norm m)

def Mono.cmp : Mono → Mono → Ordering
  | [], [] => .eq
  | [], _ => .lt
  | _, [] => .gt
  | a :: m, b :: n => if a.lt b then .lt else if b.lt a then .gt else Mono.cmp m n

def Poly.ins (c : Int) (m : Mono) : Poly → Poly
  | [] => [(c, m)]
  | (c', m') :: p => match Mono.cmp m m' with
    | .lt => (c, m) :: (c', m') :: p
    | .eq => (c + c', m') :: p
    | .gt => (c', m') :: Poly.ins c m p
def Poly.norm0 : Poly → Poly
  | [] => []
  | (c, m) :: p => Poly.ins c (Mono.norm m) (Poly.norm0 p)
def Poly.dropZero : Poly → Poly
  | [] => []
  | (c, m) :: p => if c = 0 then Poly.dropZero p else (c, m) :: Poly.dropZero p
def Poly.norm (p : Poly) : Poly := (Poly.norm0 p).dropZero

theorem Atom.eq_of_not_lt {a b : Atom} (h1 : a.lt b = false) (h2 : b.lt a = false) : a = b := by
  cases a <;> cases b <;> simp [Atom.lt] at h1 h2 ⊢
  · omega
  · constructor <;> omega

theorem Mono.val_ins (e : Env) (a : Atom) : ∀ m : Mono, Mono.val e (Mono.ins a m) = a.val e * Mono.val e m
  | [] => by simp [Mono.ins, Mono.val]
  | b :: m => by
    simp only [Mono.ins]
    split
    · simp [Mono.val]
    · simp only [Mono.val, Mono.val_ins e a m]
      simp [Int.mul_left_comm]

theorem Mono.val_norm (e : Env) : ∀ m : Mono, Mono.val e (Mono.norm m) = Mono.val e m
  | [] => rfl
  | a :: m => by simp [Mono.norm, Mono.val_ins, Mono.val, Mono.val_norm e m]

theorem Mono.eq_of_cmp_eq : ∀ (m n : Mono), Mono.cmp m n = .eq → m = n
  | [], [], _ => rfl
  | [], _ :: _, h => by simp [Mono.cmp] at h
  | _ :: _, [], h => by simp [Mono.cmp] at h
  | a :: m, b :: n, h => by
    simp only [Mono.cmp] at h
    split at h
    · simp at h
    · split at h
      · simp at h
      · next h1 h2 =>
        have hab : a = b := Atom.eq_of_not_lt (by simpa using h1) (by simpa using h2)
        rw [hab, Mono.eq_of_cmp_eq m n h]

theorem Poly.val_ins (e : Env) (c : Int) (m : Mono) : ∀ p : Poly, (Poly.ins c m p).val e = c * Mono.val e m + p.val e
  | [] => by simp [Poly.ins, Poly.val]
  | (c', m') :: p => by
    simp only [Poly.ins]
    split
    · simp [Poly.val]
    · next h =>
      have := Mono.eq_of_cmp_eq m m' h
      subst this
      simp [Poly.val, Int.add_mul, Int.add_assoc]
    · simp only [Poly.val, Poly.val_ins e c m p]
      omega

theorem Poly.val_norm0 (e : Env) : ∀ p : Poly, (Poly.norm0 p).val e = p.val e
  | [] => rfl
  | (c, m) :: p => by simp [Poly.norm0, Poly.val_ins, Mono.val_norm, Poly.val, Poly.val_norm0 e p]

theorem Poly.val_dropZero (e : Env) : ∀ p : Poly, (Poly.dropZero p).val e = p.val e
  | [] => rfl
  | (c, m) :: p => by
    simp only [Poly.dropZero]
    split
    · next h => simp [Poly.val, h, Poly.val_dropZero e p]
    · simp [Poly.val, Poly.val_dropZero e p]

theorem Poly.val_norm (e : Env) (p : Poly) : (Poly.norm p).val e = p.val e := by
  simp [Poly.norm, Poly.val_dropZero, Poly.val_norm0]

def Poly.allDiv (M : Int) (p : Poly) : Bool := p.all fun t => t.1 % M == 0

theorem Poly.allDiv_sound (e : Env) (M : Int) : ∀ p : Poly, p.allDiv M = true → p.val e % M = 0
  | [], _ => by simp [Poly.val]
  | (c, m) :: p, h => by
    simp only [Poly.allDiv, List.all_cons, Bool.and_eq_true, beq_iff_eq] at h
    have ih := Poly.allDiv_sound e M p h.2
    simp only [Poly.val]
    have h1 : c % M = 0 := h.1
    rw [Int.add_emod, Int.mul_emod, h1, ih]; simp

/-- coefficient-wise exact division -/
def Poly.divC (d : Int) : Poly → Poly
  | [] => []
  | (c, m) :: p => (c / d, m) :: Poly.divC d p

theorem Poly.val_divC (e : Env) (d : Int) : ∀ p : Poly, p.allDiv d = true → d * (Poly.divC d p).val e = p.val e
  | [], _ => by simp [Poly.divC, Poly.val]
  | (c, m) :: p, h => by
    simp only [Poly.allDiv, List.all_cons, Bool.and_eq_true, beq_iff_eq] at h
    have ih := Poly.val_divC e d p h.2
    simp only [Poly.divC, Poly.val]
    have h1 : d * (c / d) = c := Int.mul_ediv_cancel' (Int.dvd_of_emod_eq_zero h.1)
    rw [Int.mul_add, ← Int.mul_assoc, h1, ih]

/-! scoping: a polynomial whose atoms refer to indices < n is not affected by appending values -/

def Mono.scoped (n : Nat) (m : Mono) : Bool := m.all fun a => a.idx < n
def Poly.scoped (n : Nat) (p : Poly) : Bool := p.all fun t => Mono.scoped n t.2

theorem Mono.val_congr (e e' : Env) (n : Nat) (hg : ∀ i, i < n → get e i = get e' i) :
    ∀ m : Mono, Mono.scoped n m = true → Mono.val e m = Mono.val e' m
  | [], _ => rfl
  | a :: m, h => by
    simp only [Mono.scoped, List.all_cons, Bool.and_eq_true, decide_eq_true_eq] at h
    simp only [Mono.val]
    rw [Mono.val_congr e e' n hg m h.2]
    cases a <;> simp [Atom.idx] at h <;> simp [Atom.val, hg _ h.1]

theorem Poly.val_congr (e e' : Env) (n : Nat) (hg : ∀ i, i < n → get e i = get e' i) :
    ∀ p : Poly, Poly.scoped n p = true → Poly.val e p = Poly.val e' p
  | [], _ => rfl
  | (c, m) :: p, h => by
    simp only [Poly.scoped, List.all_cons, Bool.and_eq_true] at h
    simp only [Poly.val]
    rw [Mono.val_congr e e' n hg m h.1, Poly.val_congr e e' n hg p h.2]

theorem Poly.val_append_env (e : Env) (x : Nat) (p : Poly) (h : Poly.scoped e.length p = true) :
    Poly.val (e ++ [x]) p = Poly.val e p :=
  Poly.val_congr _ _ e.length (fun _ hi => get_append_lt hi) p h

theorem Mono.scoped_mono {n n' : Nat} (hn : n ≤ n') (m : Mono) (h : Mono.scoped n m = true) : Mono.scoped n' m = true := by
  simp only [Mono.scoped, List.all_eq_true, decide_eq_true_eq] at h ⊢
  exact fun a ha => Nat.lt_of_lt_of_le (h a ha) hn

theorem Poly.scoped_mono {n n' : Nat} (hn : n ≤ n') (p : Poly) (h : Poly.scoped n p = true) : Poly.scoped n' p = true := by
  simp only [Poly.scoped, List.all_eq_true] at h ⊢
  exact fun t ht => Mono.scoped_mono hn _ (h t ht)

abbrev SEnv := List Poly
def sget (s : SEnv) (i : Nat) : Poly := s.getD i []

/-- the polynomial of the value defined by `op` at position `n = |env|` -/
def Op.sym (a : AEnv) (s : SEnv) (n : Nat) : Op → Poly
  | .const c => [((c : Int), [])]
  | .add x y => (sget s x).add (sget s y)
  | .mul x y => (sget s x).mul (sget s y)
  | .subw x y w =>
    if (aget a y).hi ≤ (aget a x).lo ∧ (aget a x).hi < 2^w then (sget s x).add ((sget s y).scale (-1))
    else [(1, [Atom.var n])]
  | .shr x k =>
    if (aget a x).hi < 2^k then []      -- the interval run already knows the quotient is 0 (e.g. carry out of `x + 0`)
    else if (sget s x).allDiv ((2^k : Nat) : Int) then Poly.divC ((2^k : Nat) : Int) (sget s x)
    else [(1, [Atom.quot x k])]
  | .shl x k => (sget s x).scale ((2^k : Nat) : Int)
  | .low x k =>
    if (aget a x).hi < 2^k then sget s x
    else (sget s x).add [(-((2^k : Nat) : Int), [Atom.quot x k])]
  | .wrap x k =>
    if (aget a x).hi < 2^k then sget s x
    else (sget s x).add [(-((2^k : Nat) : Int), [Atom.quot x k])]
  | .and _ _ => [(1, [Atom.var n])]
  | .or x y =>
    if (aget a y).hi < 2^(aget a x).tz ∨ (aget a x).hi < 2^(aget a y).tz then (sget s x).add (sget s y)
    else [(1, [Atom.var n])]
  | .xor _ _ => [(1, [Atom.var n])]
  | .lt _ _ => [(1, [Atom.var n])]
  | .eq _ _ => [(1, [Atom.var n])]

def SSat (e : Env) (s : SEnv) : Prop :=
  e.length = s.length ∧ ∀ i, i < s.length → (sget s i).val e = (get e i : Int) ∧ (sget s i).scoped e.length = true

theorem sget_append_lt {s : SEnv} {x : Poly} {i : Nat} (h : i < s.length) : sget (s ++ [x]) i = sget s i := by
  simp [sget, List.getD, List.getElem?_append_left h]
theorem sget_append_eq (s : SEnv) (x : Poly) : sget (s ++ [x]) s.length = x := by
  simp [sget, List.getD]

/-- past the end `sget` reads the zero polynomial and `get` reads 0: the invariant holds at every position -/
theorem SSat.nth {e : Env} {s : SEnv} (hs : SSat e s) (i : Nat) :
    (sget s i).val e = (get e i : Int) ∧ (sget s i).scoped e.length = true := by
  by_cases hi : i < s.length
  · exact hs.2 i hi
  · have hi := Nat.le_of_not_lt hi
    rw [sget, get, getD_of_le _ hi, getD_of_le _ (hs.1 ▸ hi)]
    exact ⟨rfl, rfl⟩

/-- evaluated in the extended environment; `v` keeps the new entry opaque while `Op.eval` is unfolded on the right.
Scoping (`hwf`) is only needed where the step makes a `quot` atom. -/
theorem sym_sound {e : Env} {a : AEnv} {s : SEnv} (h : Sat e a) (hs : SSat e s) (op : Op)
    (hwf : op.wf e.length = true) (v : Nat) (hv : v = op.eval e) :
    (op.sym a s e.length).val (e ++ [v]) = ((op.eval e : Nat) : Int) := by
  have old : ∀ x, (sget s x).val (e ++ [v]) = (get e x : Int) := fun x =>
    (Poly.val_append_env e _ _ (hs.nth x).2).trans (hs.nth x).1
  have self : Poly.val (e ++ [v]) [(1, [Atom.var e.length])] = ((op.eval e : Nat) : Int) := by
    simp [Poly.val, Mono.val, Atom.val, get_append_eq, hv]
  have quotv : ∀ x k, x < e.length → Atom.val (e ++ [v]) (Atom.quot x k) = ((get e x / 2^k : Nat) : Int) := by
    intro x k hx
    simp [Atom.val, get_append_lt hx]
  cases op <;> simp only [Op.wf, Bool.and_eq_true, decide_eq_true_eq] at hwf <;> simp only [Op.sym, Op.eval]
  case const n => simp [Poly.val, Mono.val]
  case add x y => simp [Poly.val_add, old]
  case mul x y => simp [Poly.val_mul, old]
  case subw x y n =>
    obtain ⟨hx1, hx2, _⟩ := h.nth x; obtain ⟨hy1, hy2, _⟩ := h.nth y
    split
    · next hc =>
      rw [Poly.val_add, Poly.val_scale, old, old, subw_exact (show get e y ≤ get e x by omega) (show get e x < 2^n by omega)]
      omega
    · exact self
  case shr x k =>
    split
    · next hlt =>
      have := (h.nth x).2.1
      rw [Nat.div_eq_of_lt (show get e x < 2^k by omega)]
      rfl
    split
    · next hd =>
      have hvd := Poly.val_divC (e ++ [v]) _ _ hd
      rw [old] at hvd
      have hpos : (0 : Int) < ((2^k : Nat) : Int) := Int.natCast_pos.2 (Nat.two_pow_pos k)
      rw [Int.natCast_ediv, ← hvd, Int.mul_ediv_cancel_left _ (Int.ne_of_gt hpos)]
    · simp [Poly.val, Mono.val, quotv x k hwf]
  case shl x k => simp [Poly.val_scale, old, Int.mul_comm]
  case low x k | wrap x k =>
    split
    · next hlt =>
      have := (h.nth x).2.1
      rw [old, Nat.mod_eq_of_lt (show get e x < 2^k by omega)]
    · rw [Poly.val_add, old]
      simp only [Poly.val, Mono.val, quotv x k hwf, Int.natCast_emod, Int.emod_def, Int.natCast_ediv,
        Int.mul_one, Int.add_zero, Int.neg_mul, Int.sub_eq_add_neg]
  case or x y =>
    obtain ⟨_, hx2, hx3⟩ := h.nth x; obtain ⟨_, hy2, hy3⟩ := h.nth y
    split
    · next hc =>
      rw [Poly.val_add, old, old]
      cases hc with
      | inl hc => rw [or_eq_add_of_tz hx3 (by omega)]; exact (Int.natCast_add ..).symm
      | inr hc => rw [Nat.or_comm, or_eq_add_of_tz hy3 (by omega), Int.natCast_add]; exact Int.add_comm ..
    · exact self
  case and x y | xor x y | lt x y | eq x y => exact self

/-- symbolic + interval run; every stored polynomial is normalised and checked to be well scoped -/
def srun : List Op → AEnv → SEnv → Option (AEnv × SEnv)
  | [], a, s => some (a, s)
  | op :: ops, a, s =>
    let p := (op.sym a s a.length).norm
    if p.scoped (a.length + 1) then srun ops (a ++ [op.abs a]) (s ++ [p]) else none

theorem SSat.push {e : Env} {s : SEnv} (hs : SSat e s) {v : Nat} {p : Poly} (hp : p.val (e ++ [v]) = (v : Int))
    (hsc : p.scoped (e.length + 1) = true) : SSat (e ++ [v]) (s ++ [p]) := by
  refine ⟨by simp [hs.1], fun j hj => ?_⟩
  rw [List.length_append, List.length_singleton] at hj ⊢
  by_cases hlt : j < s.length
  · have hj' := hs.2 j hlt
    rw [sget_append_lt hlt, get_append_lt (hs.1 ▸ hlt), Poly.val_append_env e _ _ hj'.2]
    exact ⟨hj'.1, Poly.scoped_mono (Nat.le_succ _) _ hj'.2⟩
  · have : j = s.length := by omega
    subst this
    rw [sget_append_eq, ← hs.1, get_append_eq]
    exact ⟨hp, hsc⟩

theorem srun_sound : ∀ (ops : List Op) (e : Env) (a a' : AEnv) (s s' : SEnv),
    Sat e a → SSat e s → wfProg a.length ops = true →
    srun ops a s = some (a', s') → Sat (run ops e) a' ∧ SSat (run ops e) s' := by
  intro ops
  induction ops with
  | nil => intro e a a' s s' h hs _ hr; cases hr; exact ⟨h, hs⟩
  | cons op ops ih =>
    intro e a a' s s' h hs hwf hr
    obtain ⟨hop, hwf⟩ := wfProg_cons (op.abs a) hwf
    simp only [srun] at hr
    split at hr
    · next hsc =>
      -- scopedness of the un-normalised polynomial is not known; work with the normalised one
      refine ih _ _ _ _ _ (h.push (step_sound h op)) (hs.push ?_ (h.1 ▸ hsc)) hwf hr
      rw [Poly.val_norm, ← h.1]
      exact sym_sound h hs op (h.1 ▸ hop) _ rfl
    · cases hr

end Voi.IR

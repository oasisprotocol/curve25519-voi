/-
L0: `check` evaluated over position-indexed binary tries in place of lists.  The obligations `check prog outs spec = true`
are decided by kernel evaluation; `arun`, `srun` and `wrapsOK` extend their environments by `a ++ [x]` and read them by
`List.getD` (and `a.length`) at every instruction, so the kernel walks a nest of unevaluated appends each time: quadratic
in the length of the program.  `checkF` is `check` with the three runs carried out over a `Store` (logarithmic reads and
writes) and turned back into lists at the end; the obligations remain statements about `check`, through
`checkF_eq : checkF = check`.
-/
import Voi.IR.Check
namespace Voi.IR

/-- a partial map from positions: 0 at the root, 2j+1 at position j of the left subtree, 2j+2 at position j of the right one -/
inductive Store (α : Type) where
  | nil
  | node (v : Option α) (l r : Store α)

namespace Store
variable {α : Type}

def parts : Store α → Option α × Store α × Store α
  | nil => (none, nil, nil)
  | node v l r => (v, l, r)

def get (d : α) : Store α → Nat → α
  | nil, _ => d
  | node v l r, i => if i = 0 then v.getD d else if i % 2 = 1 then l.get d (i / 2) else r.get d (i / 2 - 1)

/-- write at position `i`, descending at most `f` levels -/
def set : Nat → Store α → Nat → α → Store α
  | 0, t, _, _ => t
  | f + 1, t, i, x =>
    if i = 0 then node (some x) t.parts.2.1 t.parts.2.2
    else if i % 2 = 1 then node t.parts.1 (set f t.parts.2.1 (i / 2) x) t.parts.2.2
    else node t.parts.1 t.parts.2.1 (set f t.parts.2.2 (i / 2 - 1) x)

theorem get_parts (d : α) (t : Store α) (i : Nat) : t.get d i =
    if i = 0 then t.parts.1.getD d else if i % 2 = 1 then t.parts.2.1.get d (i / 2) else t.parts.2.2.get d (i / 2 - 1) := by
  cases t with
  | nil => simp [get, parts]
  | node v l r => rfl

theorem get_set (d : α) (x : α) : ∀ (f : Nat) (t : Store α) (k i : Nat), k + 1 < 2 ^ f →
    (set f t k x).get d i = if i = k then x else t.get d i
  | 0, _, _, _, h => by omega
  | f + 1, t, k, i, h => by
    have ih := fun t k => get_set d x f t k
    rw [Nat.pow_succ] at h
    rw [get_parts d t i, set]
    split
    · next hk =>
      rw [get, hk]
      split
      · rfl
      · rfl
    -- the write goes into one subtree; `i` reads the written cell only if it descends the same way to the same position
    split
    · next hk hk1 =>
      rw [get, ih _ _ _ (by omega)]
      by_cases hik : i = k
      · rw [if_pos hik, if_neg (by omega), if_pos (by omega), if_pos (by omega)]
      · rw [if_neg hik]
        split
        · rfl
        split
        · rw [if_neg (by omega)]
        · rfl
    · next hk hk1 =>
      rw [get, ih _ _ _ (by omega)]
      by_cases hik : i = k
      · rw [if_pos hik, if_neg (by omega), if_neg (by omega), if_pos (by omega)]
      · rw [if_neg hik]
        split
        · rfl
        split
        · rfl
        · rw [if_neg (by omega)]

/-- write at position `k`: `k + 1` levels always reach it -/
def put (t : Store α) (k : Nat) (x : α) : Store α := set (k + 1) t k x

theorem get_put (d : α) (t : Store α) (k : Nat) (x : α) (i : Nat) : (t.put k x).get d i = if i = k then x else t.get d i :=
  get_set d x _ t k i Nat.lt_two_pow_self

def pushAll (t : Store α) (n : Nat) : List α → Store α
  | [] => t
  | x :: xs => (t.put n x).pushAll (n + 1) xs

def ofList (l : List α) : Store α := nil.pushAll 0 l

def toList (d : α) (t : Store α) (n : Nat) : List α := (List.range n).map (t.get d)

end Store

def Agree {α : Type} (d : α) (t : Store α) (l : List α) : Prop := t.get d = fun i => l.getD i d

namespace Agree
variable {α : Type} {d : α} {t : Store α} {l : List α}

theorem nil : Agree d .nil ([] : List α) := rfl

theorem snoc (h : Agree d t l) (x : α) : Agree d (t.put l.length x) (l ++ [x]) := by
  funext i
  rw [Store.get_put, congrFun h i]
  split
  · next hi => rw [hi, List.getD_eq_getElem?_getD, List.getElem?_concat_length]; rfl
  · next hi =>
    by_cases hlt : i < l.length
    · rw [List.getD_eq_getElem?_getD, List.getD_eq_getElem?_getD, List.getElem?_append_left hlt]
    · rw [getD_of_le d (by omega), getD_of_le d (by rw [List.length_append, List.length_singleton]; omega)]

theorem pushAll : ∀ (xs : List α) {t : Store α} {l : List α}, Agree d t l → Agree d (t.pushAll l.length xs) (l ++ xs)
  | [], _, _, h => by rw [List.append_nil]; exact h
  | x :: xs, _, _, h => by
    have := pushAll xs (h.snoc x)
    rwa [List.length_append, List.append_assoc] at this

theorem ofList (l : List α) : Agree d (.ofList l) l := pushAll l nil

theorem toList (h : Agree d t l) : t.toList d l.length = l := by
  rw [Store.toList, h]
  apply List.ext_getElem (by simp)
  intro i _ hi
  simp [List.getD_eq_getElem?_getD, List.getElem?_eq_getElem hi]

end Agree

/-! the two step functions with the lookups as parameters -/

def Op.absF (g : Nat → AVal) : Op → AVal
  | .const n => ⟨n, n, tzc 256 n⟩
  | .add x y => ⟨(g x).lo + (g y).lo, (g x).hi + (g y).hi, min (g x).tz (g y).tz⟩
  | .mul x y => ⟨(g x).lo * (g y).lo, (g x).hi * (g y).hi, (g x).tz + (g y).tz⟩
  | .subw x y n =>
    if (g y).hi ≤ (g x).lo ∧ (g x).hi < 2^n then
      ⟨(g x).lo - (g y).hi, (g x).hi - (g y).lo, min (min (g x).tz (g y).tz) n⟩
    else ⟨0, 2^n - 1, 0⟩
  | .shr x k => ⟨(g x).lo / 2^k, (g x).hi / 2^k, (g x).tz - k⟩
  | .shl x k => ⟨(g x).lo * 2^k, (g x).hi * 2^k, (g x).tz + k⟩
  | .low x k | .wrap x k => if (g x).hi < 2^k then g x else ⟨0, 2^k - 1, min (g x).tz k⟩
  | .and x y => ⟨0, min (g x).hi (g y).hi, 0⟩
  | .or x y =>
    if (g y).hi < 2^(g x).tz then
      ⟨(g x).lo + (g y).lo, (g x).hi + (g y).hi, min (g x).tz (g y).tz⟩
    else if (g x).hi < 2^(g y).tz then
      ⟨(g x).lo + (g y).lo, (g x).hi + (g y).hi, min (g x).tz (g y).tz⟩
    else ⟨0, 2^((max (g x).hi (g y).hi).log2 + 1) - 1, 0⟩
  | .xor x y => ⟨0, 2^((max (g x).hi (g y).hi).log2 + 1) - 1, 0⟩
  | .lt _ _ | .eq _ _ => ⟨0, 1, 0⟩

def Op.symF (g : Nat → AVal) (h : Nat → Poly) (n : Nat) : Op → Poly
  | .const c => [((c : Int), [])]
  | .add x y => (h x).add (h y)
  | .mul x y => (h x).mul (h y)
  | .subw x y w =>
    if (g y).hi ≤ (g x).lo ∧ (g x).hi < 2^w then (h x).add ((h y).scale (-1))
    else [(1, [Atom.var n])]
  | .shr x k =>
    if (g x).hi < 2^k then []
    else if (h x).allDiv ((2^k : Nat) : Int) then Poly.divC ((2^k : Nat) : Int) (h x)
    else [(1, [Atom.quot x k])]
  | .shl x k => (h x).scale ((2^k : Nat) : Int)
  | .low x k | .wrap x k =>
    if (g x).hi < 2^k then h x
    else (h x).add [(-((2^k : Nat) : Int), [Atom.quot x k])]
  | .or x y =>
    if (g y).hi < 2^(g x).tz ∨ (g x).hi < 2^(g y).tz then (h x).add (h y)
    else [(1, [Atom.var n])]
  | .and _ _ | .xor _ _ | .lt _ _ | .eq _ _ => [(1, [Atom.var n])]

abbrev A0 : AVal := ⟨0, 0, 0⟩

theorem Op.abs_eq (a : AEnv) : Op.abs a = Op.absF (aget a) := by
  funext op; cases op <;> rfl

theorem Op.sym_eq (a : AEnv) (s : SEnv) (n : Nat) : Op.sym a s n = Op.symF (aget a) (sget s) n := by
  funext op; cases op <;> rfl

/-! the three runs; `ta.get A0 = aget a` is `Agree A0 ta a` unfolded -/

def arunF : List Op → Nat → Store AVal → Nat × Store AVal
  | [], n, t => (n, t)
  | op :: ops, n, t => arunF ops (n + 1) (t.put n (op.absF (t.get A0)))

theorem arunF_eq : ∀ (ops : List Op) {ta : Store AVal} {a : AEnv}, ta.get A0 = aget a →
    (arunF ops a.length ta).2.toList A0 (arunF ops a.length ta).1 = arun ops a
  | [], _, _, ha => Agree.toList ha
  | op :: ops, ta, a, ha => by
    have := arunF_eq ops (Agree.snoc ha (op.abs a))
    rw [List.length_append, List.length_singleton] at this
    rw [arunF, arun, ha, ← Op.abs_eq]; exact this

def wrapsOKF : List Op → Nat → Store AVal → Bool
  | [], _, _ => true
  | op :: ops, n, t =>
    (match op with
     | .wrap x k => decide ((t.get A0 x).hi < 2^k)
     | _ => true) && wrapsOKF ops (n + 1) (t.put n (op.absF (t.get A0)))

theorem wrapsOKF_eq : ∀ (ops : List Op) {ta : Store AVal} {a : AEnv}, ta.get A0 = aget a → wrapsOKF ops a.length ta = wrapsOK ops a
  | [], _, _, _ => rfl
  | op :: ops, ta, a, ha => by
    have := wrapsOKF_eq ops (Agree.snoc ha (op.abs a))
    rw [List.length_append, List.length_singleton] at this
    unfold wrapsOKF wrapsOK
    rw [ha, ← Op.abs_eq, this]; rfl

def srunF : List Op → Nat → Store AVal → Store Poly → Option (Nat × Store AVal × Store Poly)
  | [], n, ta, ts => some (n, ta, ts)
  | op :: ops, n, ta, ts =>
    let p := (op.symF (ta.get A0) (ts.get []) n).norm
    if p.scoped (n + 1) then srunF ops (n + 1) (ta.put n (op.absF (ta.get A0))) (ts.put n p) else none

theorem srunF_eq : ∀ (ops : List Op) {ta : Store AVal} {a : AEnv} {ts : Store Poly} {s : SEnv},
    ta.get A0 = aget a → ts.get [] = sget s → s.length = a.length →
    (srunF ops a.length ta ts).map (fun r => (r.2.1.toList A0 r.1, r.2.2.toList [] r.1)) = srun ops a s
  | [], _, _, _, _, ha, hs, hl => by
    rw [srunF, srun, Option.map_some, Agree.toList ha, ← hl, Agree.toList hs]
  | op :: ops, ta, a, ts, s, ha, hs, hl => by
    have := srunF_eq ops (Agree.snoc ha (op.abs a)) (Agree.snoc hs (op.sym a s a.length).norm) (by simp [hl])
    rw [List.length_append, List.length_singleton, hl] at this
    rw [srunF, srun, ha, hs, ← Op.abs_eq, ← Op.sym_eq]
    split
    · exact this
    · rfl

def checkF (prog : List Op) (outs : List Nat) (spec : Spec) : Bool :=
  let n := spec.pre.length
  let ta := Store.ofList spec.pre
  wfProg n prog &&
  (!spec.noWrap || wrapsOKF prog n ta) &&
  match spec.congr with
  | none => postOK ((arunF prog n ta).2.toList A0 (arunF prog n ta).1) outs spec.post
  | some c =>
    match (srunF prog n ta (.ofList (inS n))).map (fun r => (r.2.1.toList A0 r.1, r.2.2.toList [] r.1)) with
    | none => false
    | some (a', s') =>
      postOK a' outs spec.post &&
      c.rhs.scoped n && decide (c.weights.length = outs.length) &&
      (((lincombS s' c.weights outs).add (c.rhs.scale (-1))).norm).allDiv c.modulus

theorem checkF_eq (prog : List Op) (outs : List Nat) (spec : Spec) : checkF prog outs spec = check prog outs spec := by
  have ha : (Store.ofList spec.pre).get A0 = aget spec.pre := Agree.ofList _
  simp only [checkF, check, wrapsOKF_eq prog ha, arunF_eq prog ha, srunF_eq prog ha (Agree.ofList _) (inS_length _)]
  rfl

theorem check_of_fast {prog : List Op} {outs : List Nat} {spec : Spec} (h : checkF prog outs spec = true) :
    check prog outs spec = true := checkF_eq prog outs spec ▸ h

end Voi.IR

/-
Soundness of the limb-bound replay `FIR.brun`.  `Impl C` is any implementation of the leaf operations of internal/field
on some carrier of limb vectors that meets the contract table `C`: called on operands within the stated per-limb bounds,
a leaf returns an element within its stated postcondition whose value is the field operation on the operands' values.
(`Props/FL/Link*` derive statements of this shape, for limbs given one by one, from the L0 obligations about the
regenerated limb programs; they are not assembled into an `Impl`, and `Impl.ideal` is the only instance.)

`brun_sound`: for a program without summarised calls and byte-string instructions (`noSummary`), if the replay succeeds
from bounds that describe the inputs, then executing the program with the implementation's leaves (`crun`) succeeds,
every intermediate element is within the bound the replay computed for it (so each leaf was called inside its contract),
and its value is (mod p) what the abstract evaluator `FIR.run` computes.  Decision trees (`tcheck`) have no such theorem.
-/
import Voi.FIR.Basic
namespace Voi.FIR
open Voi.Spec

/-! the field specification only looks at operands modulo p -/

theorem add_congr {a a' b b' : Nat} (ha : a % p = a' % p) (hb : b % p = b' % p) : Fp.add a b = Fp.add a' b' := by
  unfold Fp.add; rw [Nat.add_mod, ha, hb, ← Nat.add_mod]
theorem mul_congr {a a' b b' : Nat} (ha : a % p = a' % p) (hb : b % p = b' % p) : Fp.mul a b = Fp.mul a' b' := by
  unfold Fp.mul; rw [Nat.mul_mod, ha, hb, ← Nat.mul_mod]
theorem sq_congr {a a' : Nat} (ha : a % p = a' % p) : Fp.sq a = Fp.sq a' := by
  unfold Fp.sq; rw [Nat.mul_mod, ha, ← Nat.mul_mod]
theorem sub_congr {a a' b b' : Nat} (ha : a % p = a' % p) (hb : b % p = b' % p) : Fp.sub a b = Fp.sub a' b' := by
  unfold Fp.sub; rw [hb, Nat.add_mod, ha, ← Nat.add_mod]
theorem neg_congr {a a' : Nat} (ha : a % p = a' % p) : Fp.neg a = Fp.neg a' := by
  unfold Fp.neg; rw [ha]
theorem inv_congr {a a' : Nat} (ha : a % p = a' % p) : Fp.inv a = Fp.inv a' := by
  unfold Fp.inv Fp.pow; rw [ha]
theorem sq2_congr {a a' : Nat} (ha : a % p = a' % p) : sq2 a = sq2 a' := by
  unfold sq2; rw [sq_congr ha]
theorem m121666_congr {a a' : Nat} (ha : a % p = a' % p) : m121666 a = m121666 a' := by
  unfold m121666; exact mul_congr ha rfl
theorem sq_mod (a : Nat) : Fp.sq a % p = Fp.sq a := Nat.mod_eq_of_lt (Nat.mod_lt _ (by decide))
theorem pow2k_congr {a a' : Nat} (ha : a % p = a' % p) : ∀ k, pow2k a k = pow2k a' k
  | 0 => by unfold pow2k; exact ha
  | k+1 => by unfold pow2k; rw [sq_congr ha]
theorem feq_congr {a a' b b' : Nat} (ha : a % p = a' % p) (hb : b % p = b' % p) : feq a b = feq a' b' := by
  unfold feq; rw [ha, hb]
theorem fisNeg_congr {a a' : Nat} (ha : a % p = a' % p) : fisNeg a = fisNeg a' := by
  unfold fisNeg Fp.isNeg; rw [ha]
theorem fisZero_congr {a a' : Nat} (ha : a % p = a' % p) : fisZero a = fisZero a' := by
  unfold fisZero; rw [ha]

def Within (limbs : List Nat) (b : Bnd) : Prop := limbs.length = b.length ∧ ∀ i, i < b.length → limbs.getD i 0 ≤ b.getD i 0

structure Impl (C : Contract) where
  Elem : Type
  limbs : Elem → List Nat
  val : Elem → Nat
  const : Nat → List Nat → Elem
  add : Elem → Elem → Elem
  sub : Elem → Elem → Elem
  mul : Elem → Elem → Elem
  neg : Elem → Elem
  sq : Elem → Elem
  sq2 : Elem → Elem
  m121666 : Elem → Elem
  pow2k : Elem → Nat → Elem
  sel : Nat → Elem → Elem → Elem
  eq : Elem → Elem → Nat
  isNeg : Elem → Nat
  isZero : Elem → Nat
  const_ok : ∀ n l, limbs (const n l) = l ∧ val (const n l) % p = n % p
  add_ok : ∀ x y a b, Within (limbs x) a → Within (limbs y) b → a.le C.addPre = true → b.le C.addPre = true →
    (a.add b).all (· < 2 ^ C.word) = true → Within (limbs (add x y)) (a.add b) ∧ val (add x y) % p = Fp.add (val x) (val y) % p
  sub_ok : ∀ x y, Within (limbs x) C.subPreA → Within (limbs y) C.subPreB →
    Within (limbs (sub x y)) C.subPost ∧ val (sub x y) % p = Fp.sub (val x) (val y) % p
  mul_ok : ∀ x y, Within (limbs x) C.mulPre → Within (limbs y) C.mulPre →
    Within (limbs (mul x y)) C.mulPost ∧ val (mul x y) % p = Fp.mul (val x) (val y) % p
  neg_ok : ∀ x, Within (limbs x) C.negPre → Within (limbs (neg x)) C.negPost ∧ val (neg x) % p = Fp.neg (val x) % p
  sq_ok : ∀ x, Within (limbs x) C.sqPre → Within (limbs (sq x)) C.sqPost ∧ val (sq x) % p = Fp.sq (val x) % p
  sq2_ok : ∀ x, Within (limbs x) C.sq2Pre → Within (limbs (sq2 x)) C.sq2Post ∧ val (sq2 x) % p = FIR.sq2 (val x) % p
  m121666_ok : ∀ x, Within (limbs x) C.m121666Pre →
    Within (limbs (m121666 x)) C.m121666Post ∧ val (m121666 x) % p = FIR.m121666 (val x) % p
  pow2k_ok : ∀ x k, Within (limbs x) C.sqPre → C.sqPost.le C.sqPre = true →
    Within (limbs (pow2k x k)) C.sqPost ∧ val (pow2k x k) % p = FIR.pow2k (val x) k % p
  sel_ok : ∀ c x y, c ≤ 1 → sel c x y = if c = 0 then x else y
  eq_ok : ∀ x y, Within (limbs x) C.toBytesPre → Within (limbs y) C.toBytesPre → eq x y = feq (val x) (val y)
  isNeg_ok : ∀ x, Within (limbs x) C.toBytesPre → isNeg x = fisNeg (val x)
  isZero_ok : ∀ x, Within (limbs x) C.toBytesPre → isZero x = fisZero (val x)

/-! `Bnd.le`, `Bnd.add` and `Bnd.max` are defined through `zip`, `Within` through entries: entry `i` of a `zip`, once -/

theorem getElem?_zip_getD {a b : List Nat} {i : Nat} (ha : i < a.length) (hb : i < b.length) :
    (a.zip b)[i]? = some (a.getD i 0, b.getD i 0) := by
  simp [List.getElem?_zip_eq_some, List.getD_eq_getElem?_getD, ha, hb]

theorem getD_zip_map (f : Nat × Nat → Nat) {a b : List Nat} {i : Nat} (ha : i < a.length) (hb : i < b.length) :
    ((a.zip b).map f).getD i 0 = f (a.getD i 0, b.getD i 0) := by
  rw [List.getD_eq_getElem?_getD, List.getElem?_map, getElem?_zip_getD ha hb]; rfl

theorem Within.of_le {a b : Bnd} (h : a.le b = true) : Within a b := by
  obtain ⟨hl, hall⟩ := Bool.and_eq_true_iff.1 h
  have hl : a.length = b.length := beq_iff_eq.1 hl
  exact ⟨hl, fun i hi => of_decide_eq_true
    (List.all_eq_true.1 hall _ (List.mem_of_getElem? (getElem?_zip_getD (hl ▸ hi) hi)))⟩

theorem Within.trans {l a b : List Nat} (h : Within l a) (hab : Within a b) : Within l b :=
  ⟨h.1.trans hab.1, fun i hi => Nat.le_trans (h.2 i (hab.1 ▸ hi)) (hab.2 i hi)⟩

theorem Within.mono {l : List Nat} {a b : Bnd} (h : Within l a) (hab : a.le b = true) : Within l b :=
  h.trans (.of_le hab)

theorem within_max {x y : Bnd} (h : x.length = y.length) : Within x (x.max y) ∧ Within y (x.max y) := by
  have hl : (x.max y).length = x.length := by simp [Bnd.max, h]
  have hg : ∀ i, i < (x.max y).length → (x.max y).getD i 0 = Nat.max (x.getD i 0) (y.getD i 0) :=
    fun i hi => getD_zip_map _ (hl ▸ hi) (h ▸ hl ▸ hi)
  exact ⟨⟨hl.symm, fun i hi => hg i hi ▸ Nat.le_max_left ..⟩, ⟨h ▸ hl.symm, fun i hi => hg i hi ▸ Nat.le_max_right ..⟩⟩

theorem within_add {lx ly : List Nat} {a b : Bnd} (hx : Within lx a) (hy : Within ly b) :
    Within (Bnd.add lx ly) (Bnd.add a b) := by
  refine ⟨by simp [Bnd.add, hx.1, hy.1], fun i hi => ?_⟩
  have hi : i < a.length ∧ i < b.length := by simpa [Bnd.add, Nat.lt_min] using hi
  rw [Bnd.add, Bnd.add, getD_zip_map _ (hx.1 ▸ hi.1) (hy.1 ▸ hi.2), getD_zip_map _ hi.1 hi.2]
  exact Nat.add_le_add (hx.2 i hi.1) (hy.2 i hi.2)

theorem within_zeros (b : Bnd) : Within (List.replicate b.length 0) b :=
  ⟨List.length_replicate, fun i hi => by
    rw [List.getD_eq_getElem?_getD, List.getElem?_replicate_of_lt hi]; exact Nat.zero_le _⟩

inductive CVal {C : Contract} (I : Impl C) where
  | fe (x : I.Elem)
  | b (n : Nat)

variable {C : Contract} (I : Impl C)

def cfe (e : List (CVal I)) (i : Nat) : Option I.Elem :=
  match e[i]? with
  | some (.fe x) => some x
  | _ => none
def cb (e : List (CVal I)) (i : Nat) : Option Nat :=
  match e[i]? with
  | some (.b n) => some n
  | _ => none

/-- one instruction; `none` = ill-sorted operand or an instruction without implementation (summaries) -/
def FOp.ceval (e : List (CVal I)) : FOp → Option (CVal I)
  | .const n l => some (.fe (I.const n l))
  | .bconst n => some (.b n)
  | .add a b => do let x ← cfe I e a; let y ← cfe I e b; pure (.fe (I.add x y))
  | .sub a b => do let x ← cfe I e a; let y ← cfe I e b; pure (.fe (I.sub x y))
  | .mul a b => do let x ← cfe I e a; let y ← cfe I e b; pure (.fe (I.mul x y))
  | .neg a => do let x ← cfe I e a; pure (.fe (I.neg x))
  | .sq a => do let x ← cfe I e a; pure (.fe (I.sq x))
  | .sq2 a => do let x ← cfe I e a; pure (.fe (I.sq2 x))
  | .m121666 a => do let x ← cfe I e a; pure (.fe (I.m121666 x))
  | .pow2k a k => do let x ← cfe I e a; pure (.fe (I.pow2k x k))
  | .sel c a b => do let n ← cb I e c; let x ← cfe I e a; let y ← cfe I e b; pure (.fe (I.sel n x y))
  | .eq a b => do let x ← cfe I e a; let y ← cfe I e b; pure (.b (I.eq x y))
  | .isNeg a => do let x ← cfe I e a; pure (.b (I.isNeg x))
  | .isZero a => do let x ← cfe I e a; pure (.b (I.isZero x))
  | .bor a b => do let x ← cb I e a; let y ← cb I e b; pure (.b (x ||| y))
  | .band a b => do let x ← cb I e a; let y ← cb I e b; pure (.b (x &&& y))
  | .bxor a b => do let x ← cb I e a; let y ← cb I e b; pure (.b (x ^^^ y))
  | .inv _ | .sqrtV _ _ | .sqrtOk _ _ => none
  | .bytesConst _ | .fromBytes _ | .toBytes _ | .topBit _ | .xorTop _ _ | .bytesEq _ _ => none

def crun : List FOp → List (CVal I) → Option (List (CVal I))
  | [], e => some e
  | op :: ops, e => do let v ← op.ceval I e; crun ops (e ++ [v])

/-- a concrete value is described by a bound and an evaluator value -/
def Rel1 : CVal I → BVal → Nat → Prop
  | .fe x, .fe b, v => Within (I.limbs x) b ∧ I.val x % p = v % p
  | .b n, .bool, v => n = v ∧ n ≤ 1
  | _, _, _ => False

def Rel (ce : List (CVal I)) (be : List BVal) (ae : Env) : Prop :=
  ce.length = be.length ∧ ae.length = be.length ∧ ∀ i, i < be.length → ∃ c b, ce[i]? = some c ∧ be[i]? = some b ∧ Rel1 I c b (get ae i)

section
variable {ce : List (CVal I)} {be : List BVal} {ae : Env}

theorem Rel.snoc (h : Rel I ce be ae) {c : CVal I} {b : BVal} {v : Nat} (h1 : Rel1 I c b v) :
    Rel I (ce ++ [c]) (be ++ [b]) (ae ++ [v]) := by
  obtain ⟨h1l, h2l, hall⟩ := h
  refine ⟨by simp [h1l], by simp [h2l], fun i hi => ?_⟩
  rw [List.length_append, List.length_singleton] at hi
  unfold get
  by_cases hlt : i < be.length
  · rw [List.getElem?_append_left (h1l ▸ hlt), List.getElem?_append_left hlt, List.getD_eq_getElem?_getD,
      List.getElem?_append_left (h2l ▸ hlt), ← List.getD_eq_getElem?_getD]
    exact hall i hlt
  · obtain rfl : i = be.length := by omega
    refine ⟨c, b, h1l ▸ List.getElem?_concat_length .., List.getElem?_concat_length .., ?_⟩
    rw [List.getD_eq_getElem?_getD, ← h2l, List.getElem?_concat_length]
    exact h1

theorem bget_eq_some {i : Nat} {b : Bnd} : bget be i = some b ↔ be[i]? = some (.fe b) := by
  unfold bget
  rw [List.getD_eq_getElem?_getD]
  cases be[i]? with
  | none => simp
  | some v => cases v <;> simp

theorem bisBool_iff {i : Nat} : bisBool be i = true ↔ be[i]? = some .bool := by
  unfold bisBool
  cases be[i]? with
  | none => simp
  | some v => cases v <;> simp

theorem Rel.entry (h : Rel I ce be ae) {i : Nat} {b : BVal} (hb : be[i]? = some b) :
    ∃ c, ce[i]? = some c ∧ Rel1 I c b (get ae i) := by
  obtain ⟨c, b', hc, hb', hr⟩ := h.2.2 i (List.getElem?_eq_some_iff.1 hb).1
  cases hb'.symm.trans hb
  exact ⟨c, hc, hr⟩

theorem Rel.fe (h : Rel I ce be ae) {i : Nat} {b : Bnd} (hb : bget be i = some b) :
    ∃ x, cfe I ce i = some x ∧ Within (I.limbs x) b ∧ I.val x % p = get ae i % p := by
  obtain ⟨c, hc, hr⟩ := h.entry I (bget_eq_some.1 hb)
  cases c with
  | b n => exact hr.elim
  | fe x => exact ⟨x, by rw [cfe, hc], hr⟩

theorem Rel.bool (h : Rel I ce be ae) {i : Nat} (hb : bisBool be i = true) :
    ∃ n, cb I ce i = some n ∧ n = get ae i ∧ n ≤ 1 := by
  obtain ⟨c, hc, hr⟩ := h.entry I (bisBool_iff.1 hb)
  cases c with
  | fe x => exact hr.elim
  | b n => exact ⟨n, by rw [cb, hc], hr⟩

theorem bit_le_one {a b : Nat} (ha : a ≤ 1) (hb : b ≤ 1) : a ||| b ≤ 1 ∧ a &&& b ≤ 1 ∧ a ^^^ b ≤ 1 := by
  have ha' : a = 0 ∨ a = 1 := by omega
  have hb' : b = 0 ∨ b = 1 := by omega
  rcases ha' with rfl | rfl <;> rcases hb' with rfl | rfl <;> decide

theorem feq_le (a b : Nat) : feq a b ≤ 1 := by unfold feq; split <;> omega
theorem fisNeg_le (a : Nat) : fisNeg a ≤ 1 := by unfold fisNeg; split <;> omega
theorem fisZero_le (a : Nat) : fisZero a ≤ 1 := by unfold fisZero; split <;> omega

def noSummary : List FOp → Bool
  | [] => true
  | .inv _ :: _ | .sqrtV _ _ :: _ | .sqrtOk _ _ :: _ => false
  | .bytesConst _ :: _ | .fromBytes _ :: _ | .toBytes _ :: _ | .topBit _ :: _ | .xorTop _ _ :: _ | .bytesEq _ _ :: _ => false
  | _ :: ops => noSummary ops

/-- A leaf with one element operand.  The replay admits the call when the operand's bound `b` passes the test `q`, and then
records `rb`.  If the leaf `f`, on every operand within such a `b`, returns what `rb` describes, with the value `g` of the
operand's value, then the step is sound: `g` only looks at its argument modulo p, which is what the evaluator's value and
the concrete one share. -/
theorem step1 (h : Rel I ce be ae) {a : Nat} {q : Bnd → Bool} {rb bv : BVal} {f : I.Elem → CVal I} {g : Nat → Nat}
    (hb : ((bget be a).bind fun b => if q b = true then some rb else none) = some bv)
    (hf : ∀ b x, Within (I.limbs x) b → q b = true → Rel1 I (f x) rb (g (I.val x)))
    (hg : ∀ {u v}, u % p = v % p → g u = g v) :
    ∃ cv, ((cfe I ce a).bind fun x => some (f x)) = some cv ∧ Rel1 I cv bv (g (get ae a)) := by
  obtain ⟨b, hb, hk⟩ := Option.bind_eq_some_iff.1 hb
  obtain ⟨x, hx, wx, vx⟩ := h.fe I hb
  split at hk
  · next hq => cases hk; exact ⟨f x, by rw [hx]; rfl, hg vx ▸ hf b x wx hq⟩
  · cases hk

/-- the same with two element operands; what the replay records may depend on the operands' bounds (`add`) -/
theorem step2 (h : Rel I ce be ae) {a a' : Nat} {q : Bnd → Bnd → Bool} {rb : Bnd → Bnd → BVal} {bv : BVal}
    {f : I.Elem → I.Elem → CVal I} {g : Nat → Nat → Nat}
    (hb : ((bget be a).bind fun b => (bget be a').bind fun b' => if q b b' = true then some (rb b b') else none) = some bv)
    (hf : ∀ b b' x x', Within (I.limbs x) b → Within (I.limbs x') b' → q b b' = true →
      Rel1 I (f x x') (rb b b') (g (I.val x) (I.val x')))
    (hg : ∀ {u v u' v'}, u % p = v % p → u' % p = v' % p → g u u' = g v v') :
    ∃ cv, ((cfe I ce a).bind fun x => (cfe I ce a').bind fun x' => some (f x x')) = some cv ∧
      Rel1 I cv bv (g (get ae a) (get ae a')) := by
  obtain ⟨b, hb, hk⟩ := Option.bind_eq_some_iff.1 hb
  obtain ⟨b', hb', hk⟩ := Option.bind_eq_some_iff.1 hk
  obtain ⟨x, hx, wx, vx⟩ := h.fe I hb
  obtain ⟨x', hx', wx', vx'⟩ := h.fe I hb'
  split at hk
  · next hq => cases hk; exact ⟨f x x', by rw [hx, hx']; rfl, hg vx vx' ▸ hf b b' x x' wx wx' hq⟩
  · cases hk

theorem bool2 (h : Rel I ce be ae) {a a' : Nat} {bv : BVal} {f : Nat → Nat → Nat}
    (hb : (if (bisBool be a && bisBool be a') = true then some BVal.bool else none) = some bv)
    (hf : ∀ {m n}, m ≤ 1 → n ≤ 1 → f m n ≤ 1) :
    ∃ cv, ((cb I ce a).bind fun m => (cb I ce a').bind fun n => some (.b (f m n))) = some cv ∧
      Rel1 I cv bv (f (get ae a) (get ae a')) := by
  split at hb
  · next hc =>
    rw [Bool.and_eq_true] at hc
    obtain ⟨m, hm, rfl, hm1⟩ := h.bool I hc.1
    obtain ⟨n, hn, rfl, hn1⟩ := h.bool I hc.2
    cases hb
    exact ⟨.b (f _ _), by rw [hm, hn]; rfl, rfl, hf hm1 hn1⟩
  · cases hb

theorem step_sound (h : Rel I ce be ae) (op : FOp) {ops : List FOp} {bv : BVal}
    (hb : op.babs C be = some bv) (hn : noSummary (op :: ops) = true) :
    ∃ c, op.ceval I ce = some c ∧ Rel1 I c bv (op.eval ae) := by
  cases op with
  | const n l =>
    cases hb
    have := I.const_ok n l
    exact ⟨_, rfl, by rw [this.1]; exact ⟨rfl, fun _ _ => Nat.le_refl _⟩, this.2⟩
  | bconst n =>
    simp only [FOp.babs] at hb
    split at hb
    · next hn => cases hb; exact ⟨_, rfl, rfl, hn⟩
    · cases hb
  | add a b =>
    refine step2 I h hb (f := fun x x' => .fe (I.add x x')) (fun b b' x x' w w' hq => ?_) add_congr
    simp only [Bool.and_eq_true] at hq
    exact I.add_ok x x' b b' w w' hq.1.1 hq.1.2 hq.2
  | sub a b =>
    exact step2 I h hb (f := fun x x' => .fe (I.sub x x'))
      (fun _ _ x x' w w' hq => I.sub_ok x x' (w.mono (Bool.and_eq_true_iff.1 hq).1) (w'.mono (Bool.and_eq_true_iff.1 hq).2)) sub_congr
  | mul a b =>
    exact step2 I h hb (f := fun x x' => .fe (I.mul x x'))
      (fun _ _ x x' w w' hq => I.mul_ok x x' (w.mono (Bool.and_eq_true_iff.1 hq).1) (w'.mono (Bool.and_eq_true_iff.1 hq).2)) mul_congr
  | neg a => exact step1 I h hb (f := fun x => .fe (I.neg x)) (fun _ x w hq => I.neg_ok x (w.mono hq)) neg_congr
  | sq a => exact step1 I h hb (f := fun x => .fe (I.sq x)) (fun _ x w hq => I.sq_ok x (w.mono hq)) sq_congr
  | sq2 a => exact step1 I h hb (f := fun x => .fe (I.sq2 x)) (fun _ x w hq => I.sq2_ok x (w.mono hq)) sq2_congr
  | m121666 a =>
    exact step1 I h hb (f := fun x => .fe (I.m121666 x)) (fun _ x w hq => I.m121666_ok x (w.mono hq)) m121666_congr
  | pow2k a k =>
    exact step1 I h hb (f := fun x => .fe (I.pow2k x k)) (g := fun v => pow2k v k)
      (fun _ x w hq => I.pow2k_ok x k (w.mono (Bool.and_eq_true_iff.1 hq).1) (Bool.and_eq_true_iff.1 hq).2) (fun h => pow2k_congr h k)
  | sel c a b =>
    obtain ⟨x, hx, hb⟩ := Option.bind_eq_some_iff.1 hb
    obtain ⟨y, hy, hb⟩ := Option.bind_eq_some_iff.1 hb
    split at hb
    · next hc =>
      simp only [Bool.and_eq_true, beq_iff_eq] at hc
      cases hb
      obtain ⟨cx, hcx, wx, vx⟩ := h.fe I hx
      obtain ⟨cy, hcy, wy, vy⟩ := h.fe I hy
      obtain ⟨n, hn, rfl, hn1⟩ := h.bool I hc.1
      have hm := within_max hc.2
      refine ⟨.fe (I.sel (get ae c) cx cy), by simp [FOp.ceval, hcx, hcy, hn], ?_⟩
      rw [I.sel_ok _ cx cy hn1]
      simp only [FOp.eval, FIR.sel]
      split
      · exact ⟨wx.trans hm.1, vx⟩
      · exact ⟨wy.trans hm.2, vy⟩
    · cases hb
  | eq a b =>
    refine step2 I h hb (f := fun x x' => .b (I.eq x x')) (fun _ _ x x' w w' hq => ?_) feq_congr
    have := I.eq_ok x x' (w.mono (Bool.and_eq_true_iff.1 hq).1) (w'.mono (Bool.and_eq_true_iff.1 hq).2)
    exact ⟨this, this ▸ feq_le _ _⟩
  | isNeg a =>
    refine step1 I h hb (f := fun x => .b (I.isNeg x)) (fun _ x w hq => ?_) fisNeg_congr
    exact ⟨I.isNeg_ok x (w.mono hq), I.isNeg_ok x (w.mono hq) ▸ fisNeg_le _⟩
  | isZero a =>
    refine step1 I h hb (f := fun x => .b (I.isZero x)) (fun _ x w hq => ?_) fisZero_congr
    exact ⟨I.isZero_ok x (w.mono hq), I.isZero_ok x (w.mono hq) ▸ fisZero_le _⟩
  | bor a b => exact bool2 I h hb fun h h' => (bit_le_one h h').1
  | band a b => exact bool2 I h hb fun h h' => (bit_le_one h h').2.1
  | bxor a b => exact bool2 I h hb fun h h' => (bit_le_one h h').2.2
  | inv | sqrtV | sqrtOk | bytesConst | fromBytes | toBytes | topBit | xorTop | bytesEq => cases hn

end

theorem brun_sound : ∀ (prog : List FOp) {ce : List (CVal I)} {be be' : List BVal} {ae : Env},
    Rel I ce be ae → noSummary prog = true → brun C prog be = some be' →
    ∃ ce', crun I prog ce = some ce' ∧ Rel I ce' be' (run prog ae)
  | [], ce, be, be', ae, h, _, hb => by cases hb; exact ⟨ce, rfl, h⟩
  | op :: ops, ce, be, be', ae, h, hn, hb => by
    obtain ⟨bv, hv, hb⟩ := Option.bind_eq_some_iff.1 hb
    obtain ⟨c, hc, hr⟩ := step_sound I h op hv hn
    have hn' : noSummary ops = true := by cases op <;> first | exact hn | cases hn
    obtain ⟨ce', hce', hrel⟩ := brun_sound ops (h.snoc I hr) hn' hb
    exact ⟨ce', by rw [crun, hc]; exact hce', hrel⟩

/-- every contract table has an implementation (so `brun_sound` is not vacuous) -/
def Impl.ideal (C : Contract) : Impl C where
  Elem := List Nat × Nat
  limbs := Prod.fst
  val := Prod.snd
  const n l := (l, n)
  add x y := (Bnd.add x.1 y.1, Fp.add x.2 y.2)
  sub x y := (List.replicate C.subPost.length 0, Fp.sub x.2 y.2)
  mul x y := (List.replicate C.mulPost.length 0, Fp.mul x.2 y.2)
  neg x := (List.replicate C.negPost.length 0, Fp.neg x.2)
  sq x := (List.replicate C.sqPost.length 0, Fp.sq x.2)
  sq2 x := (List.replicate C.sq2Post.length 0, FIR.sq2 x.2)
  m121666 x := (List.replicate C.m121666Post.length 0, FIR.m121666 x.2)
  pow2k x k := (List.replicate C.sqPost.length 0, FIR.pow2k x.2 k)
  sel c x y := if c = 0 then x else y
  eq x y := feq x.2 y.2
  isNeg x := fisNeg x.2
  isZero x := fisZero x.2
  const_ok _ _ := ⟨rfl, rfl⟩
  add_ok _ _ _ _ hx hy _ _ _ := ⟨within_add hx hy, rfl⟩
  sub_ok _ _ _ _ := ⟨within_zeros _, rfl⟩
  mul_ok _ _ _ _ := ⟨within_zeros _, rfl⟩
  neg_ok _ _ := ⟨within_zeros _, rfl⟩
  sq_ok _ _ := ⟨within_zeros _, rfl⟩
  sq2_ok _ _ := ⟨within_zeros _, rfl⟩
  m121666_ok _ _ := ⟨within_zeros _, rfl⟩
  pow2k_ok _ _ _ _ := ⟨within_zeros _, rfl⟩
  sel_ok _ _ _ _ := rfl
  eq_ok _ _ _ _ := rfl
  isNeg_ok _ _ := rfl
  isZero_ok _ _ := rfl

end Voi.FIR

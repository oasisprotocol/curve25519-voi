/-
C03 (generic part), shared vocabulary: the models of `Voi.Model.ScalarMul` instantiated with an arbitrary
commutative group, doubling chains, tables, and the algebra of "Horner" position loops.
-/
import Voi.Model.ScalarMul
import Voi.Props.C17
import Mathlib.Tactic.Module

namespace Voi.Props.C03
open Voi.Model.Recoding Voi.Model.ScalarMul Voi.Props.C17

variable {G : Type} [AddCommGroup G]

def grp (G : Type) [AddCommGroup G] : GroupOps G :=
  { zero := 0, add := fun a b => a + b, neg := fun a => -a, dbl := fun a => a + a }

@[simp] theorem grp_zero : (grp G).zero = 0 := rfl
@[simp] theorem grp_add (a b : G) : (grp G).add a b = a + b := rfl
@[simp] theorem grp_neg (a : G) : (grp G).neg a = -a := rfl
@[simp] theorem grp_dbl (a : G) : (grp G).dbl a = a + a := rfl
@[simp] theorem grp_sub (a b : G) : (grp G).sub a b = a - b := by
  simp [GroupOps.sub, sub_eq_add_neg]

theorem mulByPow2_eq (x : G) (k : Nat) : (grp G).mulByPow2 x k = ((2 : ℤ) ^ k) • x := by
  induction k generalizing x with
  | zero => simp [GroupOps.mulByPow2]
  | succ k ih =>
    simp only [GroupOps.mulByPow2, grp_dbl]
    rw [ih, pow_succ]
    module

theorem tableFrom_length (step : G) : ∀ n cur, ((grp G).tableFrom step n cur).length = n
  | 0, _ => rfl
  | n + 1, cur => by simp [GroupOps.tableFrom, tableFrom_length step n]

theorem tableFrom_getD (step : G) : ∀ n cur j, j < n →
    ((grp G).tableFrom step n cur).getD j 0 = cur + (j : ℤ) • step
  | 0, _, _, h => by omega
  | n + 1, cur, 0, _ => by simp [GroupOps.tableFrom]
  | n + 1, cur, j + 1, h => by
    simp only [GroupOps.tableFrom, List.getD_cons_succ, grp_add]
    rw [tableFrom_getD step n _ j (by omega)]
    push_cast
    module

theorem toArray_getD {α : Type} (l : List α) (j : Nat) (d : α) : l.toArray.getD j d = l.getD j d :=
  (getD_toList l.toArray j d).symm

theorem mkTable_getD (P : G) (j : Nat) (h : j < 8) :
    ((grp G).mkTable P).getD j 0 = ((j : ℤ) + 1) • P := by
  unfold GroupOps.mkTable
  rw [toArray_getD, tableFrom_getD P 8 P j h]
  module

theorem mkNafTable_getD (n : Nat) (P : G) (j : Nat) (h : j < n) :
    ((grp G).mkNafTable n P).getD j 0 = (2 * (j : ℤ) + 1) • P := by
  unfold GroupOps.mkNafTable
  rw [toArray_getD, tableFrom_getD _ n P j h]
  simp only [grp_dbl]
  module

def IsTable (tbl : Array G) (P : G) : Prop := ∀ j, j < 8 → tbl.getD j 0 = ((j : ℤ) + 1) • P

def IsNafTable (n : Nat) (tbl : Array G) (P : G) : Prop := ∀ j, j < n → tbl.getD j 0 = (2 * (j : ℤ) + 1) • P

theorem scan_eq (tbl : Array G) (a : Nat) : ∀ fuel j0 t,
    (grp G).scan tbl a fuel j0 t = if j0 + 1 ≤ a ∧ a ≤ j0 + fuel then tbl.getD (a - 1) 0 else t
  | 0, j0, t => by rw [if_neg (by omega)]; rfl
  | fuel + 1, j0, t => by
    simp only [GroupOps.scan, grp_zero]
    rw [scan_eq tbl a fuel (j0 + 1)]
    by_cases h1 : a = j0 + 1
    · rw [if_neg (by omega), if_pos h1, if_pos (by omega), h1]; rfl
    · rw [if_neg h1]
      exact if_congr (by omega) rfl rfl

/-- the masked scan of `Lookup` as direct indexing -/
theorem lookup_eq (tbl : Array G) (x : Int) :
    (grp G).lookup tbl x =
      if x = 0 ∨ 8 < x.natAbs then 0
      else if x < 0 then -tbl.getD (x.natAbs - 1) 0 else tbl.getD (x.natAbs - 1) 0 := by
  unfold GroupOps.lookup
  simp only [scan_eq, grp_zero, grp_neg]
  by_cases h0 : x = 0 ∨ 8 < x.natAbs
  · have : ¬ (0 + 1 ≤ x.natAbs ∧ x.natAbs ≤ 0 + 8) := by omega
    simp [h0, this]
  · have : 0 + 1 ≤ x.natAbs ∧ x.natAbs ≤ 0 + 8 := by omega
    simp [h0, this]

/-- C03: the constant-time `Lookup(x)` of window.go returns `x•P` for every `-8 ≤ x ≤ 8`. -/
theorem lookup_correct (tbl : Array G) (P : G) (ht : IsTable tbl P) (x : Int) (hx : x.natAbs ≤ 8) :
    (grp G).lookup tbl x = x • P := by
  rw [lookup_eq]
  by_cases h0 : x = 0
  · simp [h0]
  · rw [if_neg (by omega), ht (x.natAbs - 1) (by omega), show ((x.natAbs - 1 : Nat) : ℤ) + 1 = x.natAbs by omega]
    split
    · rw [← neg_smul]; congr 1; omega
    · congr 1; omega

/-- `Lookup` on the table built by `newProjectiveNielsPointLookupTable` -/
theorem lookup_mkTable (P : G) (x : Int) (hx : x.natAbs ≤ 8) :
    (grp G).lookup ((grp G).mkTable P) x = x • P :=
  lookup_correct _ P (mkTable_getD P) x hx

theorem nafLookup_correct (n : Nat) (tbl : Array G) (P : G) (ht : IsNafTable n tbl P) (x : Nat) (hodd : x % 2 = 1)
    (hx : x < 2 * n) : (grp G).nafLookup tbl x = (x : ℤ) • P := by
  unfold GroupOps.nafLookup
  rw [grp_zero, ht (x / 2) (by omega), show 2 * ((x / 2 : Nat) : ℤ) + 1 = x by omega]

/-- C03: a signed NAF digit of the variable-time loops adds `d•P` (n = 8: |d| < 16; n = 64, the basepoint: |d| < 128). -/
theorem nafAdd_correct (n : Nat) (tbl : Array G) (P : G) (ht : IsNafTable n tbl P) (t : G) (d : Int)
    (hd : d = 0 ∨ (d % 2 = 1 ∧ d.natAbs < 2 * n)) : (grp G).nafAdd tbl t d = t + d • P := by
  unfold GroupOps.nafAdd
  rcases hd with rfl | ⟨hodd, hlt⟩
  · simp
  · rcases lt_or_gt_of_ne (show d ≠ 0 by omega) with hneg | hpos
    · rw [if_neg (by omega), if_pos hneg, grp_sub, nafLookup_correct n tbl P ht _ (by omega) (by omega),
        Int.toNat_of_nonneg (by omega), neg_smul, sub_neg_eq_add]
    · rw [if_pos hpos, grp_add, nafLookup_correct n tbl P ht _ (by omega) (by omega), Int.toNat_of_nonneg hpos.le]

/-- `Σ_{x ∈ l} f x`, in the order and with the repetitions of the list the loops fold over (hence no `Finset`) -/
def lsum {α : Type} (l : List α) (f : α → G) : G := (l.map f).sum

/-- the `Σ sᵢ•Pᵢ` of C03 -/
def msum (ss : List Nat) (ps : List G) : G := lsum (ss.zip ps) (fun t => t.1 • t.2)

section lsum
variable {α : Type}

@[simp] theorem lsum_nil (f : α → G) : lsum [] f = 0 := rfl
@[simp] theorem lsum_cons (x : α) (l : List α) (f : α → G) : lsum (x :: l) f = f x + lsum l f := by
  simp [lsum]

theorem lsum_append (l₁ l₂ : List α) (f : α → G) : lsum (l₁ ++ l₂) f = lsum l₁ f + lsum l₂ f := by
  simp [lsum]

theorem lsum_map {β : Type} (g : β → α) (l : List β) (f : α → G) : lsum (l.map g) f = lsum l (fun x => f (g x)) := by
  simp [lsum, Function.comp_def]

theorem lsum_congr (l : List α) (f g : α → G) (h : ∀ x ∈ l, f x = g x) : lsum l f = lsum l g := by
  rw [lsum, List.map_congr_left h, lsum]

theorem lsum_add (l : List α) (f g : α → G) : lsum l (fun x => f x + g x) = lsum l f + lsum l g :=
  List.sum_map_add

theorem lsum_zsmul (l : List α) (c : ℤ) (f : α → G) : lsum l (fun x => c • f x) = c • lsum l f := by
  rw [lsum, lsum, List.smul_sum, List.map_map]
  rfl

theorem lsum_zero (l : List α) : lsum l (fun _ => (0 : G)) = 0 := by
  simp [lsum]

theorem foldl_eq_add (l : List α) (step : G → α → G) (f : α → G)
    (h : ∀ x ∈ l, ∀ q, step q x = q + f x) (q : G) : l.foldl step q = q + lsum l f := by
  induction l generalizing q with
  | nil => simp
  | cons x l ih =>
    rw [List.foldl_cons, h x (by simp), ih (fun y hy => h y (by simp [hy])), lsum_cons, add_assoc]

theorem lsum_sumD_succ (r : Nat) (l : List α) (c : α → Nat → ℤ) (p : α → G) (i : Nat) :
    lsum l (fun x => sumD r (c x) (i + 1) • p x)
      = lsum l (fun x => sumD r (c x) i • p x) + ((2 : ℤ) ^ (r * i)) • lsum l (fun x => c x i • p x) := by
  rw [← lsum_zsmul, ← lsum_add]
  apply lsum_congr
  intro x _
  show (sumD r (c x) i + c x i * 2 ^ (r * i)) • p x = _
  module

theorem lsum_sumD_zero (r : Nat) (l : List α) (c : α → Nat → ℤ) (p : α → G) :
    lsum l (fun x => sumD r (c x) 0 • p x) = 0 :=
  (lsum_congr l _ _ fun x _ => zero_smul ℤ (p x)).trans (lsum_zero l)

end lsum

/-- Horner scheme of the Straus and Pippenger loops (the accumulator times `2^w` plus column `i`, from the entry
    position down to 0); `v` is whatever closed form of `Σ_{k<i} 2^(w·k)•col k` the caller has. -/
theorem horner (w : Nat) (loop : Nat → G → G) (col v : Nat → G)
    (h0 : ∀ acc, loop 0 acc = acc)
    (hs : ∀ i acc, loop (i + 1) acc = loop i (((2 : ℤ) ^ w) • acc + col i))
    (v0 : v 0 = 0) (vs : ∀ i, v (i + 1) = v i + ((2 : ℤ) ^ (w * i)) • col i) :
    ∀ i acc, loop i acc = ((2 : ℤ) ^ (w * i)) • acc + v i
  | 0, acc => by rw [h0, v0]; simp
  | i + 1, acc => by
    rw [hs, horner w loop col v h0 hs v0 vs i, vs, pow_mul_succ]
    module

/-- a doubling in the shape `horner 1` asks for -/
theorem dbl_eq (r : G) : r + r = ((2 : ℤ) ^ 1) • r := by module

end Voi.Props.C03

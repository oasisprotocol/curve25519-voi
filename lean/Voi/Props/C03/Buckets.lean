/-
C03, Pippenger's bucket method: the two running sums of the combination phase compute the weighted bucket sum
`bw = Σ_j (j+1)•bucket_j`, and the distribution phase changes `bw` by `d•P` per signed digit, so that
`calculateColumn(idx) = Σ_i d_{i,idx}•P_i`.
-/
import Voi.Props.C03.Basic

namespace Voi.Props.C03
open Voi.Model.Recoding Voi.Model.ScalarMul Voi.Props.C17

variable {G : Type} [AddCommGroup G]

def bw (buckets : Array G) (n : Nat) : G := rsum (fun j => ((j : ℤ) + 1) • buckets.getD j 0) n

/-- generalised over the entry state: `inter` is yet to be added `i` times -/
theorem bucketSumLoop_eq (buckets : Array G) : ∀ i (inter sum : G),
    ((grp G).bucketSumLoop buckets i (inter, sum)).2 = sum + (i : ℤ) • inter + bw buckets i
  | 0, inter, sum => by simp [GroupOps.bucketSumLoop, bw, rsum]
  | i + 1, inter, sum => by
    simp only [GroupOps.bucketSumLoop, grp_add, grp_zero]
    rw [bucketSumLoop_eq buckets i]
    show _ = sum + ((i + 1 : Nat) : ℤ) • inter + (bw buckets i + ((i : ℤ) + 1) • buckets.getD i 0)
    push_cast
    module

/-- combination phase of `calculateColumn` -/
theorem bucketSum_eq (buckets : Array G) (bc : Nat) (hbc : 1 ≤ bc) :
    ((grp G).bucketSumLoop buckets (bc - 1) (buckets.getD (bc - 1) 0, buckets.getD (bc - 1) 0)).2
      = bw buckets bc := by
  rw [bucketSumLoop_eq]
  obtain ⟨k, rfl⟩ : ∃ k, bc = k + 1 := ⟨bc - 1, by omega⟩
  show _ = bw buckets k + ((k : ℤ) + 1) • buckets.getD k 0
  simp only [Nat.add_sub_cancel]
  module

theorem bw_replicate (n : Nat) : bw (Array.replicate n (0 : G)) n = 0 := by
  apply rsum_zero
  intro j _
  rw [getD_replicate, smul_zero]

theorem bw_set (buckets : Array G) (n b : Nat) (v : G) (hb : b < n) (hs : buckets.size = n) :
    bw (buckets.setIfInBounds b v) n = bw buckets n + ((b : ℤ) + 1) • (v - buckets.getD b 0) := by
  unfold bw
  rw [rsum_update (fun j => ((j : ℤ) + 1) • buckets.getD j 0)
    (fun j => ((j : ℤ) + 1) • (buckets.setIfInBounds b v).getD j 0) b
    (fun j hj => by rw [getD_setIfInBounds, if_neg (fun h => hj h.1)]) n, if_pos hb,
    getD_setIfInBounds, if_pos ⟨rfl, by omega⟩]
  module

theorem bucketStep_eq (buckets : Array G) (d : Int) (P : G) :
    (grp G).bucketStep buckets d P = if d = 0 then buckets else
      buckets.setIfInBounds (d.natAbs - 1) (buckets.getD (d.natAbs - 1) 0 + d.sign • P) := by
  unfold GroupOps.bucketStep
  rcases lt_trichotomy d 0 with h | rfl | h
  · rw [if_neg (by omega), if_pos h, if_neg (by omega), Int.sign_eq_neg_one_of_neg h,
      show (-d - 1).toNat = d.natAbs - 1 by omega]
    simp [sub_eq_add_neg]
  · rfl
  · rw [if_pos h, if_neg (by omega), Int.sign_eq_one_of_pos h, show (d - 1).toNat = d.natAbs - 1 by omega]
    simp

theorem bucketStep_size (buckets : Array G) (d : Int) (P : G) :
    ((grp G).bucketStep buckets d P).size = buckets.size := by
  rw [bucketStep_eq]
  split <;> simp

theorem bucketStep_bw (buckets : Array G) (n : Nat) (d : Int) (P : G) (hs : buckets.size = n)
    (hd : d.natAbs ≤ n) : bw ((grp G).bucketStep buckets d P) n = bw buckets n + d • P := by
  rw [bucketStep_eq]
  split
  · next h => rw [h, zero_smul, add_zero]
  · rw [bw_set buckets n _ _ (by omega) hs, add_sub_cancel_left, smul_smul,
      show ((d.natAbs - 1 : Nat) : ℤ) + 1 = d.natAbs by omega, mul_comm, Int.sign_mul_natAbs]

/-- distribution phase of `calculateColumn` -/
theorem buckets_fold (n idx : Nat) (dps : List (Array Int × G))
    (hd : ∀ dp ∈ dps, (dig dp.1 idx).natAbs ≤ n) : ∀ (buckets : Array G), buckets.size = n →
    bw (dps.foldl (fun bs dp => (grp G).bucketStep bs (dig dp.1 idx) dp.2) buckets) n
      = bw buckets n + lsum dps (fun dp => dig dp.1 idx • dp.2) := by
  induction dps with
  | nil => intro b _; simp
  | cons dp dps ih =>
    intro b hb
    rw [List.foldl_cons, ih (fun x hx => hd x (by simp [hx])) _ (by rw [bucketStep_size, hb]),
      bucketStep_bw b n (dig dp.1 idx) dp.2 hb (hd dp (by simp)), lsum_cons, add_assoc]

theorem column_eq (bc idx : Nat) (dps : List (Array Int × G)) (hbc : 1 ≤ bc)
    (hd : ∀ dp ∈ dps, (dig dp.1 idx).natAbs ≤ bc) :
    (grp G).column bc dps idx = lsum dps (fun dp => dig dp.1 idx • dp.2) := by
  unfold GroupOps.column
  simp only [grp_zero]
  rw [bucketSum_eq _ bc hbc]
  exact (buckets_fold bc idx dps hd _ (by simp)).trans (by rw [bw_replicate, zero_add])

end Voi.Props.C03

/-
C10 (Edwards point encoding): theorems about the executable Spec `Pt.decode`, `Pt.encode`, `Pt.isCanonicalEnc`,
`Pt.onCurve` of Voi/Spec/Edwards.lean — the functions the Go code (`EdwardsPoint.SetCompressedY`,
`CompressedEdwardsY.IsCanonicalVartime`, `MarshalBinary`) is compared with (streams D1 / T1) and, as regenerated, proved
equal to: `FL/Encoding.SetCompressedY_eq`, `CompressY_eq`, `PredBridge` for the canonicity test.

Decoding takes y = (leNat b mod 2^255) mod p (bit 255 is the sign, y need not be canonical) and succeeds iff
(y² − 1)/(d y² + 1) is a square, iff y is the y-coordinate of a curve point; the canonicity test excludes y ≥ p and the two
x = 0 encodings with the sign bit set.  Primality of p is `Voi.Proofs.fact_p_prime` (Voi/Proofs/Primes.lean), `d_nonsquare`
is `Voi.Proofs.d25519_nonsq` (Voi/Proofs/Ed25519Group.lean).
-/
import Voi.Proofs.SqrtRatio
import Voi.Proofs.SpecBridge
import Voi.Props.BytesLemmas
import Voi.Spec.Edwards
namespace Voi.Props.C10
open Voi Voi.Spec Voi.Proofs.SqrtRatio Voi.Props.Bytes
open Voi.Props.C07 hiding toZ
/-- Mathlib has a root-level `toZ` (order theory); here `toZ` always means the cast ℕ → ZMod p -/
local notation "toZ" => Voi.Props.C07.toZ

def yField (b : Bytes) : Nat := leNat b % 2 ^ 255
def yOf (b : Bytes) : Nat := yField b % p
def signOf (b : Bytes) : Prop := leNat b / 2 ^ 255 % 2 = 1
instance (b : Bytes) : Decidable (signOf b) := by unfold signOf; infer_instance
/-- numerator `y² − 1` and denominator `d y² + 1` of x² -/
def uOf (y : Nat) : Nat := Fp.sub (Fp.sq y) 1
def vOf (y : Nat) : Nat := Fp.add (Fp.mul Fp.d (Fp.sq y)) 1

theorem yOf_eq_ofBytes (b : Bytes) : yOf b = Fp.ofBytes b := rfl
theorem yOf_lt (b : Bytes) : yOf b < p := mod_lt _

theorem p_eq : p = 2 ^ 255 - 19 := rfl

theorem leNat_eq_fields {b : Bytes} (hs : b.size = 32) :
    leNat b = yField b + (if signOf b then 2 ^ 255 else 0) := by
  have hlt := leNat_lt_of_size hs
  unfold yField
  by_cases h : signOf b
  · rw [if_pos h]; unfold signOf at h; omega
  · rw [if_neg h]; unfold signOf at h; omega

theorem toZ_uOf (y : Nat) : toZ (uOf y) = toZ y ^ 2 - 1 := by
  unfold uOf; rw [toZ_sub, toZ_sq, toZ_one]; ring
theorem toZ_vOf (y : Nat) : toZ (vOf y) = toZ Fp.d * toZ y ^ 2 + 1 := by
  unfold vOf; rw [toZ_add, toZ_mul, toZ_sq, toZ_one]; ring

/-- `Pt.decode` on a 32-byte string, with the `let`s named -/
theorem decode_eq (b : Bytes) (hs : b.size = 32) :
    Pt.decode b =
      if (Fp.sqrtRatioM1 (uOf (yOf b)) (vOf (yOf b))).1 = true then
        some ⟨if signOf b then Fp.neg (Fp.sqrtRatioM1 (uOf (yOf b)) (vOf (yOf b))).2
              else (Fp.sqrtRatioM1 (uOf (yOf b)) (vOf (yOf b))).2, yOf b⟩
      else none := by
  unfold Pt.decode
  rw [if_neg (by rw [hs]; exact fun h => h rfl)]
  simp only []
  unfold uOf vOf yOf yField signOf
  generalize Fp.sqrtRatioM1 (Fp.sub (Fp.sq (leNat b % 2 ^ 255 % p)) 1)
    (Fp.add (Fp.mul Fp.d (Fp.sq (leNat b % 2 ^ 255 % p))) 1) = pr
  obtain ⟨ok, x⟩ := pr
  cases ok <;> simp

theorem decode_size {b : Bytes} {P : Pt} (h : Pt.decode b = some P) : b.size = 32 := by
  by_contra hs
  unfold Pt.decode at h
  rw [if_pos hs] at h
  cases h

/-- Euler's criterion, evaluated in `Proofs.d25519_nonsq` -/
theorem d_nonsquare : ¬ IsSquare (toZ Fp.d) := by
  rw [Voi.Proofs.toZ_d]; exact Voi.Proofs.d25519_nonsq

/-- −1/d is not a square -/
theorem den_ne_zero (y : ZMod p) : toZ Fp.d * y ^ 2 + 1 ≠ 0 := mul_sq_add_one_ne_zero d_nonsquare y

theorem toZ_vOf_ne (y : Nat) : toZ (vOf y) ≠ 0 := by
  rw [toZ_vOf]; exact den_ne_zero _

/-- `Proofs.onCurve_iff` solved for x² -/
theorem onCurve_iff (P : Pt) :
    P.onCurve = true ↔ P.x < p ∧ P.y < p ∧ toZ (vOf P.y) * toZ P.x ^ 2 = toZ (uOf P.y) := by
  rw [Voi.Proofs.onCurve_iff, toZ_vOf, toZ_uOf, Voi.Proofs.toZ_d]
  exact and_congr_right' (and_congr_right'
    ⟨fun h => by linear_combination -h, fun h => by linear_combination -h⟩)

theorem x_eq_zero_iff {P : Pt} (hP : P.onCurve = true) : P.x = 0 ↔ P.y = 1 ∨ P.y = p - 1 := by
  obtain ⟨hx, hy, heq⟩ := (onCurve_iff P).1 hP
  -- y = ±1 ⇔ y² − 1 = 0 in `ZMod p`
  rw [← toZ_inj_iff hy (by decide : 1 < p), ← toZ_inj_iff hy (by decide : p - 1 < p), toZ_one, toZ_p_sub_one,
    ← mul_self_eq_one_iff, ← pow_two, ← sub_eq_zero (b := (1 : ZMod p)), ← toZ_uOf]
  -- ⇔ (d y² + 1) x² = 0 ⇔ x = 0
  rw [← heq, mul_eq_zero, or_iff_right (toZ_vOf_ne _), sq_eq_zero_iff, toZ_eq_zero_iff, Nat.mod_eq_of_lt hx]

theorem encode_size (P : Pt) : (Pt.encode P).size = 32 := natLE_size _ _

theorem leNat_encode (P : Pt) :
    leNat (Pt.encode P) = P.y % p + (if Fp.isNeg P.x then 2 ^ 255 else 0) := by
  unfold Pt.encode
  rw [leNat_natLE]
  have hy := mod_lt P.y
  have hp := p_eq
  apply Nat.mod_eq_of_lt
  split <;> omega

theorem fields_of_leNat {b : Bytes} {y : Nat} {s : Prop} [Decidable s] (hy : y < p)
    (h : leNat b = y + (if s then 2 ^ 255 else 0)) : yField b = y ∧ (signOf b ↔ s) := by
  have hp := p_eq
  unfold yField signOf
  by_cases hs : s
  · rw [h, if_pos hs]; exact ⟨by omega, iff_of_true (by omega) hs⟩
  · rw [h, if_neg hs]; exact ⟨by omega, iff_of_false (by omega) hs⟩

theorem yField_encode (P : Pt) : yField (Pt.encode P) = P.y % p := (fields_of_leNat (mod_lt _) (leNat_encode P)).1

theorem signOf_encode (P : Pt) : signOf (Pt.encode P) ↔ Fp.isNeg P.x = true :=
  (fields_of_leNat (mod_lt _) (leNat_encode P)).2

theorem encode_y_lt (P : Pt) : yField (Pt.encode P) < p := by
  rw [yField_encode]; exact mod_lt _

/-- C10, acceptance: decoding succeeds exactly for 32-byte strings whose masked y (taken modulo p) makes
`(y² − 1)/(d y² + 1)` a square. -/
theorem decode_iff (b : Bytes) :
    (Pt.decode b).isSome = true ↔
      b.size = 32 ∧ IsSquare ((toZ (yOf b) ^ 2 - 1) / (toZ Fp.d * toZ (yOf b) ^ 2 + 1)) := by
  by_cases hs : b.size = 32
  · rw [decode_eq b hs, ← toZ_uOf, ← toZ_vOf, ← sqrtRatioM1_ok_iff (toZ_vOf_ne _), and_iff_right hs]
    exact Option.isSome_ite
  · refine iff_of_false (fun h => ?_) (fun h => hs h.1)
    obtain ⟨P, hP⟩ := Option.isSome_iff_exists.1 h
    exact hs (decode_size hP)

/-- For x = 0 both sign bits are accepted and decode to the same point. -/
theorem decode_on_curve {b : Bytes} {P : Pt} (h : Pt.decode b = some P) :
    P.onCurve = true ∧ P.y = yOf b ∧ P.x < p ∧
      (P.x ≠ 0 → (Fp.isNeg P.x = true ↔ signOf b)) := by
  rw [decode_eq b (decode_size h), Option.ite_none_right_eq_some, Option.some.injEq] at h
  obtain ⟨hok, rfl⟩ := h
  have hroot := sqrtRatioM1_ok hok
  have hlt := sqrtRatioM1_lt (uOf (yOf b)) (vOf (yOf b))
  have hnn := sqrtRatioM1_nonneg (uOf (yOf b)) (vOf (yOf b))
  generalize (Fp.sqrtRatioM1 (uOf (yOf b)) (vOf (yOf b))).2 = r at hroot hlt hnn
  simp only []
  have hxlt : (if signOf b then Fp.neg r else r) < p := by
    split
    exacts [neg_lt r, hlt]
  refine ⟨?_, trivial, hxlt, fun hx0 => ?_⟩
  · -- x = ±r and r is a root
    have hxsq : toZ (if signOf b then Fp.neg r else r) ^ 2 = toZ r ^ 2 := by
      split
      exacts [by rw [toZ_neg, neg_sq], rfl]
    rw [onCurve_iff]
    exact ⟨hxlt, yOf_lt b, hxsq ▸ hroot⟩
  · by_cases hsg : signOf b
    · -- x = −r with r even and non-zero, so x is odd
      rw [if_pos hsg] at hx0 ⊢
      have hr0 : r % p ≠ 0 := by
        rw [Nat.mod_eq_of_lt hlt]; rintro rfl; exact hx0 fp_neg_zero
      rw [isNeg_neg hr0, hnn]
      exact iff_of_true rfl hsg
    · rw [if_neg hsg, hnn]
      exact iff_of_false Bool.false_ne_true hsg

/-- C10: `decode b` is the curve point with the masked y (mod p) whose x has the parity that bit 255 asks for; for
x = 0 either value of the bit is accepted. -/
theorem decode_eq_some_iff (b : Bytes) (P : Pt) :
    Pt.decode b = some P ↔
      b.size = 32 ∧ P.onCurve = true ∧ P.y = yOf b ∧ (P.x ≠ 0 → (Fp.isNeg P.x = true ↔ signOf b)) := by
  refine ⟨fun h => ⟨decode_size h, (decode_on_curve h).1, (decode_on_curve h).2.1, (decode_on_curve h).2.2.2⟩, ?_⟩
  rintro ⟨hs, hP, hy, hsign⟩
  obtain ⟨hx, -, heq⟩ := (onCurve_iff P).1 hP
  -- |x| is a non-negative root, hence the one `sqrtRatioM1` returns
  rw [← toZ_abs_sq] at heq
  rw [decode_eq b hs, ← hy, sqrtRatioM1_unique (toZ_vOf_ne P.y) (abs_lt _) (abs_nonneg _) heq, if_pos rfl]
  obtain ⟨x, y⟩ := P
  refine congrArg (fun x => some (Pt.mk x y)) ?_
  -- undoing `abs` with the sign bit
  by_cases hx0 : x = 0
  · subst hx0; rw [fp_abs_zero, fp_neg_zero, ite_self]
  · unfold Fp.abs
    by_cases hn : Fp.isNeg x = true
    · rw [if_pos ((hsign hx0).1 hn), if_pos hn]; exact fp_neg_neg hx
    · rw [if_neg (fun h => hn ((hsign hx0).2 h)), if_neg hn]; exact Nat.mod_eq_of_lt hx

theorem decode_iff_exists (b : Bytes) :
    (Pt.decode b).isSome = true ↔ b.size = 32 ∧ ∃ P : Pt, P.onCurve = true ∧ P.y = yOf b := by
  constructor
  · intro h
    obtain ⟨P, hP⟩ := Option.isSome_iff_exists.1 h
    exact ⟨decode_size hP, P, (decode_on_curve hP).1, (decode_on_curve hP).2.1⟩
  · rintro ⟨hs, P, hP, hy⟩
    rw [decode_iff, ← toZ_uOf, ← toZ_vOf, ← hy, ← ((onCurve_iff P).1 hP).2.2]
    exact ⟨hs, toZ P.x, by rw [mul_div_cancel_left₀ _ (toZ_vOf_ne _), pow_two]⟩

theorem encode_decode {P : Pt} (hP : P.onCurve = true) : Pt.decode (Pt.encode P) = some P := by
  have hy : yOf (Pt.encode P) = P.y := by
    unfold yOf; rw [yField_encode, Nat.mod_mod, Nat.mod_eq_of_lt ((onCurve_iff P).1 hP).2.1]
  exact (decode_eq_some_iff _ P).2 ⟨encode_size P, hP, hy.symm, fun _ => (signOf_encode P).symm⟩

theorem encode_injective {P Q : Pt} (hP : P.onCurve = true) (hQ : Q.onCurve = true)
    (h : Pt.encode P = Pt.encode Q) : P = Q := by
  have h1 := encode_decode hP
  rw [h, encode_decode hQ] at h1
  exact (Option.some.inj h1).symm

theorem isCanonicalEnc_size {b : Bytes} (h : Pt.isCanonicalEnc b = true) : b.size = 32 := by
  by_contra hs
  unfold Pt.isCanonicalEnc at h
  rw [if_pos hs] at h
  exact Bool.noConfusion h

/-- y = ±1 is where x = 0 (`x_eq_zero_iff`) -/
theorem isCanonicalEnc_iff_fields (b : Bytes) (hs : b.size = 32) :
    Pt.isCanonicalEnc b = true ↔ yField b < p ∧ ¬ (signOf b ∧ (yField b = 1 ∨ yField b = p - 1)) := by
  unfold Pt.isCanonicalEnc yField signOf
  rw [if_neg (by rw [hs]; exact fun h => h rfl)]
  simp only [Bool.and_eq_true, decide_eq_true_eq, Bool.not_eq_true', Bool.and_eq_false_iff, Bool.or_eq_false_iff,
    decide_eq_false_iff_not, beq_eq_false_iff_ne, ne_eq, not_and_or, not_or]

/-- C10, canonicity test: `2^255 + 1` is y = 1 and `2^255 + (p − 1)` is y = −1, each with the sign bit set. -/
theorem isCanonicalEnc_iff_nat (b : Bytes) (hs : b.size = 32) :
    Pt.isCanonicalEnc b = true ↔
      yField b < p ∧ leNat b ≠ 2 ^ 255 + 1 ∧ leNat b ≠ 2 ^ 255 + (p - 1) := by
  rw [isCanonicalEnc_iff_fields b hs, leNat_eq_fields hs]
  have hp := p_eq
  refine and_congr_right fun hy => ?_
  split <;> simp only [*, true_and, false_and, not_false_eq_true, not_or, true_iff] <;> omega

theorem eq_natLE_iff {b : Bytes} (hs : b.size = 32) {n : Nat} (hn : n < 256 ^ 32) : b = natLE n 32 ↔ leNat b = n :=
  ⟨fun h => by rw [h, leNat_natLE, Nat.mod_eq_of_lt hn], fun h => by rw [← h, natLE_leNat_of_size hs]⟩

/-- the two non-canonical x = 0 encodings -/
def encY1Sign : Bytes := natLE (2 ^ 255 + 1) 32
def encYm1Sign : Bytes := natLE (2 ^ 255 + (p - 1)) 32

example : encY1Sign =
    ofHex! "0100000000000000000000000000000000000000000000000000000000000080" := by decide +kernel
example : encYm1Sign =
    ofHex! "ecffffffffffffffffffffffffffffffffffffffffffffffffffffffffffffff" := by decide +kernel

theorem isCanonicalEnc_iff (b : Bytes) (hs : b.size = 32) :
    Pt.isCanonicalEnc b = true ↔ yField b < p ∧ b ≠ encY1Sign ∧ b ≠ encYm1Sign := by
  have hp := p_eq
  rw [isCanonicalEnc_iff_nat b hs]
  exact and_congr_right' (and_congr (not_congr (eq_natLE_iff hs (by omega)).symm) (not_congr (eq_natLE_iff hs (by omega)).symm))

theorem decode_encode_canonical {b : Bytes} {P : Pt} (hc : Pt.isCanonicalEnc b = true)
    (hd : Pt.decode b = some P) : Pt.encode P = b := by
  have hs := isCanonicalEnc_size hc
  obtain ⟨hylt, hx0⟩ := (isCanonicalEnc_iff_fields b hs).1 hc
  obtain ⟨hP, hy, -, hsign⟩ := decode_on_curve hd
  have hyof : yOf b = yField b := Nat.mod_eq_of_lt hylt
  -- the sign bit of b is the parity of x, also when x = 0: then y = ±1 and canonicity clears the bit
  have hsg : (Fp.isNeg P.x = true ↔ signOf b) := by
    by_cases h0 : P.x = 0
    · have hns : ¬ signOf b := fun h => hx0 ⟨h, hyof ▸ hy ▸ (x_eq_zero_iff hP).1 h0⟩
      rw [h0, isNeg_zero]; simp only [Bool.false_eq_true, hns]
    · exact hsign h0
  apply leNat_inj (by rw [encode_size, hs])
  rw [leNat_encode, leNat_eq_fields hs, hy, hyof, Nat.mod_eq_of_lt hylt]
  simp only [hsg]

theorem encode_canonical {P : Pt} (hP : P.onCurve = true) :
    Pt.isCanonicalEnc (Pt.encode P) = true := by
  rw [isCanonicalEnc_iff_fields _ (encode_size P), signOf_encode, yField_encode,
    Nat.mod_eq_of_lt ((onCurve_iff P).1 hP).2.1, ← x_eq_zero_iff hP]
  -- a set sign bit means x is odd, in particular non-zero
  refine ⟨((onCurve_iff P).1 hP).2.1, fun ⟨hneg, h0⟩ => ?_⟩
  rw [h0, isNeg_zero] at hneg
  exact Bool.noConfusion hneg

theorem canonical_decode_iff {b : Bytes} {P : Pt} (hc : Pt.isCanonicalEnc b = true)
    (hP : P.onCurve = true) : Pt.decode b = some P ↔ b = Pt.encode P :=
  ⟨fun h => (decode_encode_canonical hc h).symm, fun h => h ▸ encode_decode hP⟩

/-- the base point, y = 4/5 -/
def encB : Bytes := ofHex! "5866666666666666666666666666666666666666666666666666666666666666"

example : encB.size = 32 := by decide +kernel
example : (Pt.decode encB).isSome = true := by decide +kernel
example : Pt.decode encB = some Pt.B ∧ Pt.B.onCurve = true := by decide +kernel
example : Pt.isCanonicalEnc encB = true ∧ Pt.encode Pt.B = encB := by decide +kernel
example : Pt.B.x =
    15112221349535400772501151409588531511454012693041857206046113283949847762202 := by decide +kernel
-- y = 1, the identity, with either sign bit
example : Pt.decode (natLE 1 32) = some Pt.zero ∧ Pt.isCanonicalEnc (natLE 1 32) = true := by
  decide +kernel
example : Pt.decode encY1Sign = some Pt.zero ∧ Pt.isCanonicalEnc encY1Sign = false := by
  decide +kernel
-- y = p − 1, the point of order 2, with the sign bit set
example : Pt.decode encYm1Sign = some ⟨0, p - 1⟩ ∧ Pt.isCanonicalEnc encYm1Sign = false := by
  decide +kernel
-- y = p + 1 ≡ 1, a non-canonical y
example : Pt.decode (natLE (p + 1) 32) = some Pt.zero ∧
    Pt.isCanonicalEnc (natLE (p + 1) 32) = false ∧
    Pt.encode Pt.zero ≠ natLE (p + 1) 32 := by decide +kernel
-- y = 2 is not on the curve
example : Pt.decode (natLE 2 32) = none := by decide +kernel
example : Pt.decode (natLE 1 31) = none ∧ Pt.decode (natLE 1 33) = none := by decide +kernel

#print axioms d_nonsquare
#print axioms den_ne_zero
#print axioms decode_iff
#print axioms decode_iff_exists
#print axioms decode_on_curve
#print axioms encode_decode
#print axioms decode_encode_canonical
#print axioms isCanonicalEnc_iff
#print axioms isCanonicalEnc_iff_nat
#print axioms encode_injective
#print axioms encode_size
#print axioms encode_y_lt
#print axioms encode_canonical
#print axioms canonical_decode_iff

end Voi.Props.C10

/-
Byte strings as little-endian numbers, continued: single bytes, slices, concatenation and zero padding in terms of the
value.
-/
import Voi.Props.BytesLemmas
namespace Voi.Props.Bytes
open Voi

theorem get!_eq (b : Bytes) (i : Nat) : b.get! i = b[i]! := by
  cases b with
  | mk bs =>
    show bs[i]! = _
    by_cases h : i < bs.size
    · rw [getElem!_pos bs i h, getElem!_pos (ByteArray.mk bs) i h]; rfl
    · rw [getElem!_neg bs i h, getElem!_neg (ByteArray.mk bs) i h]

theorem get!_eq_getElem (b : Bytes) (i : Nat) (h : i < b.size) : b.get! i = b[i] := by
  rw [get!_eq, getElem!_pos b i h]

theorem get!_eq_toList (b : Bytes) (i : Nat) (h : i < b.size) :
    b.get! i = b.data.toList[i]'(by simpa using h) := by
  rw [get!_eq_getElem b i h, ByteArray.getElem_eq_getElem_data]; simp

theorem get!_toNat (b : Bytes) (i : Nat) (h : i < b.size) : (b.get! i).toNat = leNat b / 256 ^ i % 256 := by
  rw [get!_eq_toList b i h, leNat_eq, leList_digit]

theorem get!_last {b : Bytes} {n : Nat} (h : b.size = n + 1) : (b.get! n).toNat = leNat b / 256 ^ n := by
  rw [get!_toNat b n (by omega)]
  exact Nat.mod_eq_of_lt (Nat.div_lt_of_lt_mul (Nat.pow_succ 256 n ▸ leNat_lt_of_size h))

theorem leNat_bslice (b : Bytes) (off len : Nat) :
    leNat (bslice b off len) = leNat b / 256 ^ off % 256 ^ len := by
  unfold bslice
  rw [leNat_eq, leNat_eq, ByteArray.data_extract, Array.toList_extract, List.extract_eq_take_drop,
    leList_take, leList_drop, Nat.add_sub_cancel_left]

theorem bslice_size_of_le {b : Bytes} {off len : Nat} (h : off + len ≤ b.size) : (bslice b off len).size = len := by
  rw [bslice_size]; omega

theorem bslice_size_le (b : Bytes) (off len : Nat) : (bslice b off len).size ≤ len := by
  rw [bslice_size]; omega

theorem get!_bslice (b : Bytes) (off len i : Nat) (hi : i < len) (hb : off + len ≤ b.size) :
    (bslice b off len).get! i = b.get! (off + i) := by
  rw [get!_eq_getElem _ i (by rw [bslice_size_of_le hb]; exact hi), get!_eq_getElem b (off + i) (by omega)]
  unfold bslice
  rw [ByteArray.getElem_extract]

theorem split_at (b : Bytes) (n m : Nat) (h : b.size = n + m) : bslice b 0 n ++ bslice b n m = b := by
  unfold bslice
  rw [Nat.zero_add, ByteArray.extract_append_extract]
  have : b.extract (min 0 n) (max n (n + m)) = b.extract 0 b.size := by
    rw [h]; congr 1 <;> omega
  rw [this, ByteArray.extract_zero_size]

theorem bslice_bslice (b : Bytes) (off len off' len' : Nat) (h : off' + len' ≤ len) :
    bslice (bslice b off len) off' len' = bslice b (off + off') len' := by
  unfold bslice
  rw [ByteArray.extract_extract]
  congr 1
  omega

theorem leList_append (l l' : List UInt8) : leList (l ++ l') = leList l + 256 ^ l.length * leList l' := by
  induction l with
  | nil => simp [leList]
  | cons x l ih =>
    simp only [List.cons_append, leList, ih, List.length_cons, Nat.pow_succ']
    rw [Nat.mul_add, Nat.add_assoc, Nat.mul_assoc]

theorem leNat_append (a c : Bytes) : leNat (a ++ c) = leNat a + 256 ^ a.size * leNat c := by
  rw [leNat_eq, leNat_eq, leNat_eq, ByteArray.toList_data_append, leList_append, Array.length_toList]
  rfl

theorem leList_replicate_zero (n : Nat) : leList (List.replicate n 0) = 0 := by
  induction n with
  | zero => rfl
  | succ n ih => simp [List.replicate_succ, leList, ih]

theorem bzero_size (n : Nat) : (bzero n).size = n := Array.size_replicate

theorem leNat_bzero (n : Nat) : leNat (bzero n) = 0 := by
  rw [leNat_eq]
  have : (bzero n).data.toList = List.replicate n 0 := by simp [bzero]
  rw [this, leList_replicate_zero]

theorem leNat_pad (a : Bytes) (n : Nat) : leNat (a ++ bzero n) = leNat a := by
  rw [leNat_append, leNat_bzero, Nat.mul_zero, Nat.add_zero]

theorem digits_add (a b : Nat) : ∀ n, digits n (a + b) = digits n a ++ digits (n / 256 ^ a) b := by
  induction a with
  | zero => intro n; simp [digits]
  | succ a ih =>
    intro n
    have : a + 1 + b = (a + b) + 1 := by omega
    rw [this]
    simp only [digits, ih, List.cons_append]
    rw [Nat.pow_succ', Nat.div_div_eq_div_mul]

theorem natLE_add (n a b : Nat) : natLE n (a + b) = natLE n a ++ natLE (n / 256 ^ a) b := by
  apply ByteArray.ext
  apply Array.toList_inj.1
  rw [ByteArray.toList_data_append, natLE_data, natLE_data, natLE_data, digits_add]

end Voi.Props.Bytes

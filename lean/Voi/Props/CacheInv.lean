/-
Property C09 (caching verifier part): `cache.Verifier` is transparent.  `CacheOK` says that every value held by the
cache is `NewExpandedPublicKey` of the key it is stored under; it holds for a fresh cache of ANY capacity and after
every history of hits, misses and evictions (`cacheOK_run`).  Under it `upsertPublicKey(pk)` returns exactly
`expand pk` whatever the cache contains (`upsert_spec`), so `VerifyWithOptions` and `AddWithOptions` through the
cache do what `VerifyExpandedWithOptions` / `AddExpandedWithOptions` do with `expand pk`, which is what the Spec says
of `pk` (`verify_eq_spec`; for the batch entry `BatchInv.serialVerdict_expand`), with the documented exception that
an unusable key gives false BEFORE the options are validated.
-/
import Voi.Model.CacheVerifier
import Voi.Props.LRUInv
import Voi.Props.BatchInv
namespace Voi.Props.CacheInv
open Voi Voi.Spec Voi.Spec.Ed25519 Voi.Model Voi.Model.Batch Voi.Model.CacheVerifier
open Voi.Spec.LRU (lookup)

def CacheOK (c : Cache) : Prop := ∀ k x, lookup k c.store = some (some x) → expand k = some x

theorem cacheOK_new (cap : Nat) : CacheOK (Model.LRU.new cap) := by
  intro k x h; simp [Model.LRU.new, lookup] at h

theorem cacheOK_get {c : Cache} (h : CacheOK c) (k : Bytes) : CacheOK (Model.LRU.get c k).1 := by
  intro k' x hx; rw [LRUInv.store_get] at hx; exact h k' x hx

theorem cacheOK_put {c : Cache} (h : CacheOK c) (k : Bytes) (x : XKey) (hx : expand k = some x) :
    CacheOK (Model.LRU.put c k (some x)) := by
  intro k' y hy
  rcases LRUInv.put_lookup c k k' (some x) (some y) hy with ⟨e, ey⟩ | h2
  · rw [e, hx, ← Option.some.inj ey]
  · exact h k' y h2

theorem expand_wrong_size (pk : Bytes) (h : pk.size ≠ 32) : expand pk = none := by
  rw [expand, BatchInv.decode_wrong_size h]

theorem upsert_spec {c : Cache} (h : CacheOK c) (pk : Bytes) :
    CacheOK (upsert c pk).1 ∧ (upsert c pk).2 = expand pk := by
  unfold upsert
  by_cases hsz : pk.size ≠ 32
  · rw [if_pos hsz]; exact ⟨h, (expand_wrong_size pk hsz).symm⟩
  · rw [if_neg hsz]
    have hg := cacheOK_get h pk
    have hr := LRUInv.get_snd c pk
    generalize Model.LRU.get c pk = r at hg hr
    obtain ⟨c1, o⟩ := r
    cases o with
    | some x => exact ⟨hg, (h pk x (Option.join_eq_some_iff.mp hr.symm)).symm⟩
    | none =>
      cases he : expand pk with
      | none => exact ⟨hg, rfl⟩
      | some x => exact ⟨cacheOK_put hg pk x he, rfl⟩

theorem verify_transparent {c : Cache} (h : CacheOK c) (pk msg sig : Bytes) (o : Opts) :
    CacheOK (CacheVerifier.verify c pk msg sig o).1 ∧
    (CacheVerifier.verify c pk msg sig o).2 =
      (match expand pk with
       | none => some false
       | some x => verifyExpanded x msg sig o) := by
  unfold CacheVerifier.verify
  obtain ⟨h1, h2⟩ := upsert_spec h pk
  generalize upsert c pk = r at h1 h2
  obtain ⟨c1, ox⟩ := r
  simp only at h1 h2
  subst h2
  cases expand pk <;> exact ⟨h1, rfl⟩

/-- `none` = documented panic -/
theorem verifyExpanded_expand (pk msg sig : Bytes) (o : Opts) (x : XKey) (hx : expand pk = some x) :
    verifyExpanded x msg sig o =
      (match modeOf o.verify o.ctx (decide (o.hash = .sha512)) (decide (o.hash = .other)) msg.size with
       | none => none
       | some f => some (Spec.Ed25519.verify o.vopts f o.ctx pk msg sig)) := by
  rw [BatchInv.modeOf_eq]
  unfold verifyExpanded
  cases h1 : optsVerify o with
  | none => rfl
  | some fb =>
    cases h2 : checkHash fb msg.size o.hash with
    | none => simp [h2]
    | some f =>
      simp only [Option.bind_some, h2]
      obtain ⟨hc, hk⟩ := BatchInv.expand_some hx o.vopts
      rw [hk, hc]
      -- the key check adds nothing: what the Spec accepts has passed it
      cases hv : Spec.Ed25519.verify o.vopts f o.ctx pk msg sig with
      | true => rw [(BatchInv.verify_true_admissible _ _ _ _ _ _ hv).1]; rfl
      | false => cases unpackPublicKey o.vopts pk <;> rfl

/-- C09: an unusable key gives false, where plain `VerifyWithOptions` panics for a wrong length and validates the
options first; otherwise the result is the Spec's verdict, or the documented panic for bad options -/
theorem verify_eq_spec {c : Cache} (h : CacheOK c) (pk msg sig : Bytes) (o : Opts) :
    (CacheVerifier.verify c pk msg sig o).2 =
      (if (expand pk).isNone then some false else
       match modeOf o.verify o.ctx (decide (o.hash = .sha512)) (decide (o.hash = .other)) msg.size with
       | none => none
       | some f => some (Spec.Ed25519.verify o.vopts f o.ctx pk msg sig)) := by
  rw [(verify_transparent h pk msg sig o).2]
  cases hx : expand pk with
  | none => rfl
  | some x => simp only [Option.isNone_some, Bool.false_eq_true, if_false]; exact verifyExpanded_expand pk msg sig o x hx

theorem addToBatch_transparent {c : Cache} (h : CacheOK c) (b : Batch.State) (pk msg sig : Bytes) (o : Opts) :
    CacheOK (addToBatch c b pk msg sig o).1 ∧
    (addToBatch c b pk msg sig o).2 = addExpandedWithOptions b (expand pk) msg sig o := by
  obtain ⟨h1, h2⟩ := upsert_spec h pk
  exact ⟨h1, congrArg (addExpandedWithOptions b · msg sig o) h2⟩

/-- the operations of a history, by their effect on the cache.  `Verifier.AddWithOptions` has no constructor of its
own: on the cache it does what `AddPublicKey` does, `(upsert c pk).1` (`addToBatch`) -/
inductive COp where
  | verify (pk msg sig : Bytes) (o : Opts)
  | addPublicKey (pk : Bytes)
  | get (pk : Bytes)             -- a direct `Get` on the underlying cache (harness op `c.get`)

def cstep (c : Cache) : COp → Cache
  | .verify pk msg sig o => (CacheVerifier.verify c pk msg sig o).1
  | .addPublicKey pk => addPublicKey c pk
  | .get pk => (Model.LRU.get c pk).1

theorem cacheOK_step {c : Cache} (h : CacheOK c) (op : COp) : CacheOK (cstep c op) := by
  cases op with
  | verify pk msg sig o => exact (verify_transparent h pk msg sig o).1
  | addPublicKey pk => exact (upsert_spec h pk).1
  | get pk => exact cacheOK_get h pk

theorem cacheOK_run (cap : Nat) (ops : List COp) : CacheOK (ops.foldl cstep (Model.LRU.new cap)) :=
  List.foldlRecOn ops cstep (cacheOK_new cap) fun _ h op _ => cacheOK_step h op

theorem verify_after_history (cap : Nat) (ops : List COp) (pk msg sig : Bytes) (o : Opts) :
    (CacheVerifier.verify (ops.foldl cstep (Model.LRU.new cap)) pk msg sig o).2 =
      (if (expand pk).isNone then some false else
       match modeOf o.verify o.ctx (decide (o.hash = .sha512)) (decide (o.hash = .other)) msg.size with
       | none => none
       | some f => some (Spec.Ed25519.verify o.vopts f o.ctx pk msg sig)) :=
  verify_eq_spec (cacheOK_run cap ops) pk msg sig o

example : (CacheVerifier.verify (Model.LRU.new 1) ByteArray.empty ByteArray.empty ByteArray.empty Opts.default).2
    = some false := by decide

end Voi.Props.CacheInv

#print axioms Voi.Props.CacheInv.upsert_spec
#print axioms Voi.Props.CacheInv.verify_transparent
#print axioms Voi.Props.CacheInv.verifyExpanded_expand
#print axioms Voi.Props.CacheInv.verify_eq_spec
#print axioms Voi.Props.CacheInv.addToBatch_transparent
#print axioms Voi.Props.CacheInv.cacheOK_run
#print axioms Voi.Props.CacheInv.verify_after_history

/- Obligation: the regenerated program of curve/scalar:scalarMulInternal (tags force32bit) meets its committed specification. -/
import Voi.Props.L0.Specs
import Voi.IR.Fast
import Voi.Gen.IR_ScalarU32_scalarMulInternal
namespace Voi.Props.L0
open Voi.IR

theorem ScalarU32_scalarMulInternal : check Voi.Gen.ScalarU32.scalarMulInternal_prog Voi.Gen.ScalarU32.scalarMulInternal_outs Spec.ScalarU32_scalarMulInternal = true := check_of_fast (by decide +kernel)

end Voi.Props.L0

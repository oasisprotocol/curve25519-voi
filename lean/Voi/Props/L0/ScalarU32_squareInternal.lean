/- Obligation: the regenerated program of curve/scalar:(*unpackedScalar).squareInternal (tags force32bit) meets its committed specification. -/
import Voi.Props.L0.Specs
import Voi.IR.Fast
import Voi.Gen.IR_ScalarU32_squareInternal
namespace Voi.Props.L0
open Voi.IR

theorem ScalarU32_squareInternal : check Voi.Gen.ScalarU32.squareInternal_prog Voi.Gen.ScalarU32.squareInternal_outs Spec.ScalarU32_squareInternal = true := check_of_fast (by decide +kernel)

end Voi.Props.L0

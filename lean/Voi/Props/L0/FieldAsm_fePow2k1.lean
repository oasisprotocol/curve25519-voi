/- Obligation: the program asm2ir regenerated from internal/field/field_u64_amd64.s:fePow2k (k = 1) meets the committed specification
   (the SAME specification as the generic Go code). -/
import Voi.Props.L0.Specs
import Voi.IR.Fast
import Voi.Gen.IR_FieldAsm_fePow2k1
namespace Voi.Props.L0
open Voi.IR

theorem FieldAsm_fePow2k1 : check Voi.Gen.FieldAsm.fePow2k1_prog Voi.Gen.FieldAsm.fePow2k1_outs Spec.FieldAsm_fePow2k1 = true := check_of_fast (by decide +kernel)

end Voi.Props.L0

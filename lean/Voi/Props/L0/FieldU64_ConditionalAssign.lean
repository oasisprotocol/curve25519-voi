/- Obligation: the regenerated program of internal/field:(*Element).ConditionalAssign (tags purego) meets its committed specification. -/
import Voi.Props.L0.Specs
import Voi.IR.Fast
import Voi.Gen.IR_FieldU64_ConditionalAssign
namespace Voi.Props.L0
open Voi.IR

theorem FieldU64_ConditionalAssign : check Voi.Gen.FieldU64.ConditionalAssign_prog Voi.Gen.FieldU64.ConditionalAssign_outs Spec.FieldU64_ConditionalAssign = true := check_of_fast (by decide +kernel)

end Voi.Props.L0

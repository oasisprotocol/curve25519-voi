/- Obligation: the regenerated program of internal/field:(*Element).SetBytesWide (tags force32bit) meets its committed specification. -/
import Voi.Props.L0.Specs
import Voi.IR.Fast
import Voi.Gen.IR_FieldU32_SetBytesWide
namespace Voi.Props.L0
open Voi.IR

theorem FieldU32_SetBytesWide : check Voi.Gen.FieldU32.SetBytesWide_prog Voi.Gen.FieldU32.SetBytesWide_outs Spec.FieldU32_SetBytesWide = true := check_of_fast (by decide +kernel)

end Voi.Props.L0

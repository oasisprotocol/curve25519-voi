/- Obligation: the regenerated program of curve/scalar:(*unpackedScalar).MontgomeryReduce (tags force32bit) meets its committed specification. -/
import Voi.Props.L0.Specs
import Voi.IR.Fast
import Voi.Gen.IR_ScalarU32_MontgomeryReduce
namespace Voi.Props.L0
open Voi.IR

theorem ScalarU32_MontgomeryReduce : check Voi.Gen.ScalarU32.MontgomeryReduce_prog Voi.Gen.ScalarU32.MontgomeryReduce_outs Spec.ScalarU32_MontgomeryReduce = true := check_of_fast (by decide +kernel)

end Voi.Props.L0

/- Obligation: the regenerated program of internal/field:(*Element).SetBytes (tags purego) meets its committed specification. -/
import Voi.Props.L0.Specs
import Voi.IR.Fast
import Voi.Gen.IR_FieldU64_SetBytes
namespace Voi.Props.L0
open Voi.IR

theorem FieldU64_SetBytes : check Voi.Gen.FieldU64.SetBytes_prog Voi.Gen.FieldU64.SetBytes_outs Spec.FieldU64_SetBytes = true := check_of_fast (by decide +kernel)

end Voi.Props.L0

/- Obligation: the regenerated program of internal/field:(*Element).Add (tags force32bit) meets its committed specification. -/
import Voi.Props.L0.Specs
import Voi.IR.Fast
import Voi.Gen.IR_FieldU32_Add
namespace Voi.Props.L0
open Voi.IR

theorem FieldU32_Add : check Voi.Gen.FieldU32.Add_prog Voi.Gen.FieldU32.Add_outs Spec.FieldU32_Add = true := check_of_fast (by decide +kernel)

end Voi.Props.L0

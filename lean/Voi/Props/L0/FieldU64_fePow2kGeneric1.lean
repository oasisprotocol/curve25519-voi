/- Obligation: the regenerated program of internal/field:fePow2kGeneric (tags purego) meets its committed specification. -/
import Voi.Props.L0.Specs
import Voi.IR.Fast
import Voi.Gen.IR_FieldU64_fePow2kGeneric1
namespace Voi.Props.L0
open Voi.IR

theorem FieldU64_fePow2kGeneric1 : check Voi.Gen.FieldU64.fePow2kGeneric1_prog Voi.Gen.FieldU64.fePow2kGeneric1_outs Spec.FieldU64_fePow2kGeneric1 = true := check_of_fast (by decide +kernel)

end Voi.Props.L0

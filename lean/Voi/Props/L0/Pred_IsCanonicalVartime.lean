/-
Obligation (C10, canonicity clause): the decision tree go2ir regenerated from curve/edwards.go:IsCanonicalVartime (the
succeed-fast loop over all 32 bytes, then the comparison with the two package-level byte strings `noncanonicalSignBits`,
whose contents come from interpreting the real initialiser) returns 1 exactly when the y field (low 255 bits) is below
p = 2^255-19 and the string is neither (y = 1, sign bit set) nor (y = p-1, sign bit set), for all 2^256 inputs.

On the two exceptional strings the tree is evaluated.  For every other string `hB`, `hC` turn the tree's two string
comparisons into `False`, which leaves the succeed-fast loop: one lemma application per `if`, `omega` per path.  `hlex` is
stated first because a path's `omega` is cheap as long as it sees single bytes only: the weighted sum of the
specification costs as much in one call as all paths together.  No node of the tree is named; the script relies on the
tree comparing with the two strings by conjunctions of the 32 byte equalities in the order of the statement (however
they associate; `*p == noncanonicalSignBits[i]` and `bytes.Equal` both translate to that).
-/
import Voi.IR.TreeLemmas
import Voi.Gen.IR_Pred_IsCanonicalVartime
namespace Voi.Props.L0
open Voi.IR Voi.Gen.Pred

-- the `Decidable` instance of the statement's two 32-fold conjunctions is deeper than the default allows
set_option synthInstance.maxSize 100000 in
theorem Pred_IsCanonicalVartime
    (b0 b1 b2 b3 b4 b5 b6 b7 b8 b9 b10 b11 b12 b13 b14 b15 b16 b17 b18 b19 b20 b21 b22 b23 b24 b25 b26 b27 b28 b29 b30 b31 : Nat)
    (h0 : b0 < 256) (h1 : b1 < 256) (h2 : b2 < 256) (h3 : b3 < 256) (h4 : b4 < 256) (h5 : b5 < 256) (h6 : b6 < 256) (h7 : b7 < 256)
    (h8 : b8 < 256) (h9 : b9 < 256) (h10 : b10 < 256) (h11 : b11 < 256) (h12 : b12 < 256) (h13 : b13 < 256) (h14 : b14 < 256) (h15 : b15 < 256)
    (h16 : b16 < 256) (h17 : b17 < 256) (h18 : b18 < 256) (h19 : b19 < 256) (h20 : b20 < 256) (h21 : b21 < 256) (h22 : b22 < 256) (h23 : b23 < 256)
    (h24 : b24 < 256) (h25 : b25 < 256) (h26 : b26 < 256) (h27 : b27 < 256) (h28 : b28 < 256) (h29 : b29 < 256) (h30 : b30 < 256) (h31 : b31 < 256) :
    IsCanonicalVartime_sh b0 b1 b2 b3 b4 b5 b6 b7 b8 b9 b10 b11 b12 b13 b14 b15 b16 b17 b18 b19 b20 b21 b22 b23 b24 b25 b26 b27 b28 b29 b30 b31
      = [if (b0 + 2^8*b1 + 2^16*b2 + 2^24*b3 + 2^32*b4 + 2^40*b5 + 2^48*b6 + 2^56*b7 + 2^64*b8 + 2^72*b9 + 2^80*b10 + 2^88*b11 + 2^96*b12 + 2^104*b13 + 2^112*b14 + 2^120*b15
           + 2^128*b16 + 2^136*b17 + 2^144*b18 + 2^152*b19 + 2^160*b20 + 2^168*b21 + 2^176*b22 + 2^184*b23 + 2^192*b24 + 2^200*b25 + 2^208*b26 + 2^216*b27
           + 2^224*b28 + 2^232*b29 + 2^240*b30 + 2^248*(b31 % 128) < 2^255 - 19)
         ∧ ¬(b0 = 1 ∧ b1 = 0 ∧ b2 = 0 ∧ b3 = 0 ∧ b4 = 0 ∧ b5 = 0 ∧ b6 = 0 ∧ b7 = 0 ∧ b8 = 0 ∧ b9 = 0 ∧ b10 = 0 ∧ b11 = 0 ∧ b12 = 0 ∧ b13 = 0 ∧ b14 = 0 ∧ b15 = 0 ∧ b16 = 0 ∧ b17 = 0 ∧ b18 = 0 ∧ b19 = 0 ∧ b20 = 0 ∧ b21 = 0 ∧ b22 = 0 ∧ b23 = 0 ∧ b24 = 0 ∧ b25 = 0 ∧ b26 = 0 ∧ b27 = 0 ∧ b28 = 0 ∧ b29 = 0 ∧ b30 = 0 ∧ b31 = 128)
         ∧ ¬(b0 = 236 ∧ b1 = 255 ∧ b2 = 255 ∧ b3 = 255 ∧ b4 = 255 ∧ b5 = 255 ∧ b6 = 255 ∧ b7 = 255 ∧ b8 = 255 ∧ b9 = 255 ∧ b10 = 255 ∧ b11 = 255 ∧ b12 = 255 ∧ b13 = 255 ∧ b14 = 255 ∧ b15 = 255 ∧ b16 = 255 ∧ b17 = 255 ∧ b18 = 255 ∧ b19 = 255 ∧ b20 = 255 ∧ b21 = 255 ∧ b22 = 255 ∧ b23 = 255 ∧ b24 = 255 ∧ b25 = 255 ∧ b26 = 255 ∧ b27 = 255 ∧ b28 = 255 ∧ b29 = 255 ∧ b30 = 255 ∧ b31 = 255)
         then 1 else 0] := by
  by_cases hB : b0 = 1 ∧ b1 = 0 ∧ b2 = 0 ∧ b3 = 0 ∧ b4 = 0 ∧ b5 = 0 ∧ b6 = 0 ∧ b7 = 0 ∧ b8 = 0 ∧ b9 = 0 ∧ b10 = 0 ∧ b11 = 0 ∧ b12 = 0 ∧ b13 = 0 ∧ b14 = 0 ∧ b15 = 0 ∧ b16 = 0 ∧ b17 = 0 ∧ b18 = 0 ∧ b19 = 0 ∧ b20 = 0 ∧ b21 = 0 ∧ b22 = 0 ∧ b23 = 0 ∧ b24 = 0 ∧ b25 = 0 ∧ b26 = 0 ∧ b27 = 0 ∧ b28 = 0 ∧ b29 = 0 ∧ b30 = 0 ∧ b31 = 128
  · simp only [hB]
    decide
  by_cases hC : b0 = 236 ∧ b1 = 255 ∧ b2 = 255 ∧ b3 = 255 ∧ b4 = 255 ∧ b5 = 255 ∧ b6 = 255 ∧ b7 = 255 ∧ b8 = 255 ∧ b9 = 255 ∧ b10 = 255 ∧ b11 = 255 ∧ b12 = 255 ∧ b13 = 255 ∧ b14 = 255 ∧ b15 = 255 ∧ b16 = 255 ∧ b17 = 255 ∧ b18 = 255 ∧ b19 = 255 ∧ b20 = 255 ∧ b21 = 255 ∧ b22 = 255 ∧ b23 = 255 ∧ b24 = 255 ∧ b25 = 255 ∧ b26 = 255 ∧ b27 = 255 ∧ b28 = 255 ∧ b29 = 255 ∧ b30 = 255 ∧ b31 = 255
  · simp only [hC]
    decide
  -- y ≥ p = 2^255 - 19 leaves 19 values: all bytes above the lowest are at their maximum
  have hlex : b0 + 2^8*b1 + 2^16*b2 + 2^24*b3 + 2^32*b4 + 2^40*b5 + 2^48*b6 + 2^56*b7 + 2^64*b8 + 2^72*b9 + 2^80*b10 + 2^88*b11 + 2^96*b12 + 2^104*b13 + 2^112*b14 + 2^120*b15 + 2^128*b16 + 2^136*b17 + 2^144*b18 + 2^152*b19 + 2^160*b20 + 2^168*b21 + 2^176*b22 + 2^184*b23 + 2^192*b24 + 2^200*b25 + 2^208*b26 + 2^216*b27 + 2^224*b28 + 2^232*b29 + 2^240*b30 + 2^248*(b31 % 128) < 2^255 - 19
      ↔ b0 < 237 ∨ b1 < 255 ∨ b2 < 255 ∨ b3 < 255 ∨ b4 < 255 ∨ b5 < 255 ∨ b6 < 255 ∨ b7 < 255 ∨ b8 < 255 ∨ b9 < 255 ∨ b10 < 255 ∨ b11 < 255 ∨ b12 < 255 ∨ b13 < 255 ∨ b14 < 255 ∨ b15 < 255 ∨ b16 < 255 ∨ b17 < 255 ∨ b18 < 255 ∨ b19 < 255 ∨ b20 < 255 ∨ b21 < 255 ∨ b22 < 255 ∨ b23 < 255 ∨ b24 < 255 ∨ b25 < 255 ∨ b26 < 255 ∨ b27 < 255 ∨ b28 < 255 ∨ b29 < 255 ∨ b30 < 255 ∨ b31 % 128 < 127 := by
    omega
  simp only [hlex, hB, hC, not_false_eq_true, and_true]
  -- the tree's conjunctions associate to the left
  simp only [← and_assoc] at hB hC
  unfold IsCanonicalVartime_sh
  simp only [hB, hC, if_false]
  repeat' (refine ite_l (fun _ => ?_) (fun _ => ?_))
  all_goals (refine sing_ite (fun _ => ?_) (fun _ => ?_))
  -- `with_reducible`: never try to evaluate a comparison of open terms
  all_goals first | (with_reducible rfl) | (exfalso; omega)

end Voi.Props.L0

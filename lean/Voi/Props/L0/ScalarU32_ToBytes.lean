/- Obligation: the regenerated program of curve/scalar:(*unpackedScalar).ToBytes (tags force32bit) meets its committed specification. -/
import Voi.Props.L0.Specs
import Voi.IR.Fast
import Voi.Gen.IR_ScalarU32_ToBytes
namespace Voi.Props.L0
open Voi.IR

theorem ScalarU32_ToBytes : check Voi.Gen.ScalarU32.ToBytes_prog Voi.Gen.ScalarU32.ToBytes_outs Spec.ScalarU32_ToBytes = true := check_of_fast (by decide +kernel)

end Voi.Props.L0

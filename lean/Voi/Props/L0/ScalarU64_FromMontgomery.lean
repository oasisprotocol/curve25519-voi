/- Obligation: the regenerated program of curve/scalar:(*unpackedScalar).FromMontgomery (tags purego) meets its committed specification. -/
import Voi.Props.L0.Specs
import Voi.IR.Fast
import Voi.Gen.IR_ScalarU64_FromMontgomery
namespace Voi.Props.L0
open Voi.IR

theorem ScalarU64_FromMontgomery : check Voi.Gen.ScalarU64.FromMontgomery_prog Voi.Gen.ScalarU64.FromMontgomery_outs Spec.ScalarU64_FromMontgomery = true := check_of_fast (by decide +kernel)

end Voi.Props.L0

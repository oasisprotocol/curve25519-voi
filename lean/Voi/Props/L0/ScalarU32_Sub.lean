/- Obligation: the regenerated program of curve/scalar:(*unpackedScalar).Sub (tags force32bit) meets its committed specification. -/
import Voi.Props.L0.Specs
import Voi.IR.Fast
import Voi.Gen.IR_ScalarU32_Sub
namespace Voi.Props.L0
open Voi.IR

theorem ScalarU32_Sub : check Voi.Gen.ScalarU32.Sub_prog Voi.Gen.ScalarU32.Sub_outs Spec.ScalarU32_Sub = true := check_of_fast (by decide +kernel)

end Voi.Props.L0

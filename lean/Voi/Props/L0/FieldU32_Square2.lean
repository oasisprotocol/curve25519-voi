/- Obligation: the regenerated program of internal/field:(*Element).Square2 (tags force32bit) meets its committed specification. -/
import Voi.Props.L0.Specs
import Voi.IR.Fast
import Voi.Gen.IR_FieldU32_Square2
namespace Voi.Props.L0
open Voi.IR

theorem FieldU32_Square2 : check Voi.Gen.FieldU32.Square2_prog Voi.Gen.FieldU32.Square2_outs Spec.FieldU32_Square2 = true := check_of_fast (by decide +kernel)

end Voi.Props.L0

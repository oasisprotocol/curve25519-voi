/- Obligation: the regenerated program of internal/field:(*Element).ConditionalSwap (tags purego) meets its committed specification. -/
import Voi.Props.L0.Specs
import Voi.IR.Fast
import Voi.Gen.IR_FieldU64_ConditionalSwap
namespace Voi.Props.L0
open Voi.IR

theorem FieldU64_ConditionalSwap : check Voi.Gen.FieldU64.ConditionalSwap_prog Voi.Gen.FieldU64.ConditionalSwap_outs Spec.FieldU64_ConditionalSwap = true := check_of_fast (by decide +kernel)

end Voi.Props.L0

/- Obligation: the regenerated program of curve/scalar:(*unpackedScalar).SetBytes (tags purego) meets its committed specification. -/
import Voi.Props.L0.Specs
import Voi.IR.Fast
import Voi.Gen.IR_ScalarU64_SetBytes
namespace Voi.Props.L0
open Voi.IR

theorem ScalarU64_SetBytes : check Voi.Gen.ScalarU64.SetBytes_prog Voi.Gen.ScalarU64.SetBytes_outs Spec.ScalarU64_SetBytes = true := check_of_fast (by decide +kernel)

end Voi.Props.L0

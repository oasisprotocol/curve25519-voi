/- Obligation: the regenerated program of internal/field:(*Element).reduce (tags force32bit) meets its committed specification. -/
import Voi.Props.L0.Specs
import Voi.IR.Fast
import Voi.Gen.IR_FieldU32_reduce
namespace Voi.Props.L0
open Voi.IR

theorem FieldU32_reduce : check Voi.Gen.FieldU32.reduce_prog Voi.Gen.FieldU32.reduce_outs Spec.FieldU32_reduce = true := check_of_fast (by decide +kernel)

end Voi.Props.L0

/- Obligation: the regenerated program of curve/scalar:scalarMulInternal (tags purego) meets its committed specification. -/
import Voi.Props.L0.Specs
import Voi.IR.Fast
import Voi.Gen.IR_ScalarU64_scalarMulInternal
namespace Voi.Props.L0
open Voi.IR

theorem ScalarU64_scalarMulInternal : check Voi.Gen.ScalarU64.scalarMulInternal_prog Voi.Gen.ScalarU64.scalarMulInternal_outs Spec.ScalarU64_scalarMulInternal = true := check_of_fast (by decide +kernel)

end Voi.Props.L0

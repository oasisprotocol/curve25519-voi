/- Obligation: the regenerated program of curve/scalar:(*unpackedScalar).ToBytes (tags purego) meets its committed specification. -/
import Voi.Props.L0.Specs
import Voi.IR.Fast
import Voi.Gen.IR_ScalarU64_ToBytes
namespace Voi.Props.L0
open Voi.IR

theorem ScalarU64_ToBytes : check Voi.Gen.ScalarU64.ToBytes_prog Voi.Gen.ScalarU64.ToBytes_outs Spec.ScalarU64_ToBytes = true := check_of_fast (by decide +kernel)

end Voi.Props.L0

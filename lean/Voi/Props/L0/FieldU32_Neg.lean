/- Obligation: the regenerated program of internal/field:(*Element).Neg (tags force32bit) meets its committed specification. -/
import Voi.Props.L0.Specs
import Voi.IR.Fast
import Voi.Gen.IR_FieldU32_Neg
namespace Voi.Props.L0
open Voi.IR

theorem FieldU32_Neg : check Voi.Gen.FieldU32.Neg_prog Voi.Gen.FieldU32.Neg_outs Spec.FieldU32_Neg = true := check_of_fast (by decide +kernel)

end Voi.Props.L0

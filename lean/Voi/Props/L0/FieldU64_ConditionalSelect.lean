/- Obligation: the regenerated program of internal/field:(*Element).ConditionalSelect (tags purego) meets its committed specification. -/
import Voi.Props.L0.Specs
import Voi.IR.Fast
import Voi.Gen.IR_FieldU64_ConditionalSelect
namespace Voi.Props.L0
open Voi.IR

theorem FieldU64_ConditionalSelect : check Voi.Gen.FieldU64.ConditionalSelect_prog Voi.Gen.FieldU64.ConditionalSelect_outs Spec.FieldU64_ConditionalSelect = true := check_of_fast (by decide +kernel)

end Voi.Props.L0

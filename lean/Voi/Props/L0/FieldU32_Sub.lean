/- Obligation: the regenerated program of internal/field:(*Element).Sub (tags force32bit) meets its committed specification. -/
import Voi.Props.L0.Specs
import Voi.IR.Fast
import Voi.Gen.IR_FieldU32_Sub
namespace Voi.Props.L0
open Voi.IR

theorem FieldU32_Sub : check Voi.Gen.FieldU32.Sub_prog Voi.Gen.FieldU32.Sub_outs Spec.FieldU32_Sub = true := check_of_fast (by decide +kernel)

end Voi.Props.L0

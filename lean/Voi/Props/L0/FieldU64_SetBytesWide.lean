/- Obligation: the regenerated program of internal/field:(*Element).SetBytesWide (tags purego) meets its committed specification. -/
import Voi.Props.L0.Specs
import Voi.IR.Fast
import Voi.Gen.IR_FieldU64_SetBytesWide
namespace Voi.Props.L0
open Voi.IR

theorem FieldU64_SetBytesWide : check Voi.Gen.FieldU64.SetBytesWide_prog Voi.Gen.FieldU64.SetBytesWide_outs Spec.FieldU64_SetBytesWide = true := check_of_fast (by decide +kernel)

end Voi.Props.L0

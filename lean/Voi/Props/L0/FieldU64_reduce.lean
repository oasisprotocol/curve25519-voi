/- Obligation: the regenerated program of internal/field:(*Element).reduce (tags purego) meets its committed specification. -/
import Voi.Props.L0.Specs
import Voi.IR.Fast
import Voi.Gen.IR_FieldU64_reduce
namespace Voi.Props.L0
open Voi.IR

theorem FieldU64_reduce : check Voi.Gen.FieldU64.reduce_prog Voi.Gen.FieldU64.reduce_outs Spec.FieldU64_reduce = true := check_of_fast (by decide +kernel)

end Voi.Props.L0

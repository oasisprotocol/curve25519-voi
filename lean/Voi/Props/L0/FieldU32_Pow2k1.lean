/- Obligation: the regenerated program of internal/field:(*Element).Pow2k (tags force32bit) meets its committed specification. -/
import Voi.Props.L0.Specs
import Voi.IR.Fast
import Voi.Gen.IR_FieldU32_Pow2k1
namespace Voi.Props.L0
open Voi.IR

theorem FieldU32_Pow2k1 : check Voi.Gen.FieldU32.Pow2k1_prog Voi.Gen.FieldU32.Pow2k1_outs Spec.FieldU32_Pow2k1 = true := check_of_fast (by decide +kernel)

end Voi.Props.L0

/- Obligation: the regenerated program of curve/scalar:(*unpackedScalar).SetBytes (tags force32bit) meets its committed specification. -/
import Voi.Props.L0.Specs
import Voi.IR.Fast
import Voi.Gen.IR_ScalarU32_SetBytes
namespace Voi.Props.L0
open Voi.IR

theorem ScalarU32_SetBytes : check Voi.Gen.ScalarU32.SetBytes_prog Voi.Gen.ScalarU32.SetBytes_outs Spec.ScalarU32_SetBytes = true := check_of_fast (by decide +kernel)

end Voi.Props.L0

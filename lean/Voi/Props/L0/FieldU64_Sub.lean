/- Obligation: the regenerated program of internal/field:(*Element).Sub (tags purego) meets its committed specification. -/
import Voi.Props.L0.Specs
import Voi.IR.Fast
import Voi.Gen.IR_FieldU64_Sub
namespace Voi.Props.L0
open Voi.IR

theorem FieldU64_Sub : check Voi.Gen.FieldU64.Sub_prog Voi.Gen.FieldU64.Sub_outs Spec.FieldU64_Sub = true := check_of_fast (by decide +kernel)

end Voi.Props.L0

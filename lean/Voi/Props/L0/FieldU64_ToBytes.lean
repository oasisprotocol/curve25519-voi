/- Obligation: the regenerated program of internal/field:(*Element).ToBytes (tags purego) meets its committed specification. -/
import Voi.Props.L0.Specs
import Voi.IR.Fast
import Voi.Gen.IR_FieldU64_ToBytes
namespace Voi.Props.L0
open Voi.IR

theorem FieldU64_ToBytes : check Voi.Gen.FieldU64.ToBytes_prog Voi.Gen.FieldU64.ToBytes_outs Spec.FieldU64_ToBytes = true := check_of_fast (by decide +kernel)

end Voi.Props.L0

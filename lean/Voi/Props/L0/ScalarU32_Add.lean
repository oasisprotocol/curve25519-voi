/- Obligation: the regenerated program of curve/scalar:(*unpackedScalar).Add (tags force32bit) meets its committed specification. -/
import Voi.Props.L0.Specs
import Voi.IR.Fast
import Voi.Gen.IR_ScalarU32_Add
namespace Voi.Props.L0
open Voi.IR

theorem ScalarU32_Add : check Voi.Gen.ScalarU32.Add_prog Voi.Gen.ScalarU32.Add_outs Spec.ScalarU32_Add = true := check_of_fast (by decide +kernel)

end Voi.Props.L0

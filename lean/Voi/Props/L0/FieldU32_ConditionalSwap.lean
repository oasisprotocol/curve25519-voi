/- Obligation: the regenerated program of internal/field:(*Element).ConditionalSwap (tags force32bit) meets its committed specification. -/
import Voi.Props.L0.Specs
import Voi.IR.Fast
import Voi.Gen.IR_FieldU32_ConditionalSwap
namespace Voi.Props.L0
open Voi.IR

theorem FieldU32_ConditionalSwap : check Voi.Gen.FieldU32.ConditionalSwap_prog Voi.Gen.FieldU32.ConditionalSwap_outs Spec.FieldU32_ConditionalSwap = true := check_of_fast (by decide +kernel)

end Voi.Props.L0

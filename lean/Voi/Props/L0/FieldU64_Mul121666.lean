/- Obligation: the regenerated program of internal/field:(*Element).Mul121666 (tags purego) meets its committed specification. -/
import Voi.Props.L0.Specs
import Voi.IR.Fast
import Voi.Gen.IR_FieldU64_Mul121666
namespace Voi.Props.L0
open Voi.IR

theorem FieldU64_Mul121666 : check Voi.Gen.FieldU64.Mul121666_prog Voi.Gen.FieldU64.Mul121666_outs Spec.FieldU64_Mul121666 = true := check_of_fast (by decide +kernel)

end Voi.Props.L0

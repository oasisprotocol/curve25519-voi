/- Obligation: the regenerated program of curve/scalar:(*unpackedScalar).MontgomeryReduce (tags purego) meets its committed specification. -/
import Voi.Props.L0.Specs
import Voi.IR.Fast
import Voi.Gen.IR_ScalarU64_MontgomeryReduce
namespace Voi.Props.L0
open Voi.IR

theorem ScalarU64_MontgomeryReduce : check Voi.Gen.ScalarU64.MontgomeryReduce_prog Voi.Gen.ScalarU64.MontgomeryReduce_outs Spec.ScalarU64_MontgomeryReduce = true := check_of_fast (by decide +kernel)

end Voi.Props.L0

/- Obligation: the regenerated program of curve/scalar:(*unpackedScalar).squareInternal (tags purego) meets its committed specification. -/
import Voi.Props.L0.Specs
import Voi.IR.Fast
import Voi.Gen.IR_ScalarU64_squareInternal
namespace Voi.Props.L0
open Voi.IR

theorem ScalarU64_squareInternal : check Voi.Gen.ScalarU64.squareInternal_prog Voi.Gen.ScalarU64.squareInternal_outs Spec.ScalarU64_squareInternal = true := check_of_fast (by decide +kernel)

end Voi.Props.L0

/- Obligation: the regenerated program of curve/scalar:(*unpackedScalar).Add (tags purego) meets its committed specification. -/
import Voi.Props.L0.Specs
import Voi.IR.Fast
import Voi.Gen.IR_ScalarU64_Add
namespace Voi.Props.L0
open Voi.IR

theorem ScalarU64_Add : check Voi.Gen.ScalarU64.Add_prog Voi.Gen.ScalarU64.Add_outs Spec.ScalarU64_Add = true := check_of_fast (by decide +kernel)

end Voi.Props.L0

/- Obligation: the regenerated program of curve/scalar:(*unpackedScalar).Sub (tags purego) meets its committed specification. -/
import Voi.Props.L0.Specs
import Voi.IR.Fast
import Voi.Gen.IR_ScalarU64_Sub
namespace Voi.Props.L0
open Voi.IR

theorem ScalarU64_Sub : check Voi.Gen.ScalarU64.Sub_prog Voi.Gen.ScalarU64.Sub_outs Spec.ScalarU64_Sub = true := check_of_fast (by decide +kernel)

end Voi.Props.L0

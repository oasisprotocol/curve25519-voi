/- Obligation: the regenerated program of internal/field:(*Element).Neg (tags purego) meets its committed specification. -/
import Voi.Props.L0.Specs
import Voi.IR.Fast
import Voi.Gen.IR_FieldU64_Neg
namespace Voi.Props.L0
open Voi.IR

theorem FieldU64_Neg : check Voi.Gen.FieldU64.Neg_prog Voi.Gen.FieldU64.Neg_outs Spec.FieldU64_Neg = true := check_of_fast (by decide +kernel)

end Voi.Props.L0

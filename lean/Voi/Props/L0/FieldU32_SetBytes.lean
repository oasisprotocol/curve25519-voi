/- Obligation: the regenerated program of internal/field:(*Element).SetBytes (tags force32bit) meets its committed specification. -/
import Voi.Props.L0.Specs
import Voi.IR.Fast
import Voi.Gen.IR_FieldU32_SetBytes
namespace Voi.Props.L0
open Voi.IR

theorem FieldU32_SetBytes : check Voi.Gen.FieldU32.SetBytes_prog Voi.Gen.FieldU32.SetBytes_outs Spec.FieldU32_SetBytes = true := check_of_fast (by decide +kernel)

end Voi.Props.L0

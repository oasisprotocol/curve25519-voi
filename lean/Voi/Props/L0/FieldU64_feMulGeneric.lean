/- Obligation: the regenerated program of internal/field:feMulGeneric (tags purego) meets its committed specification. -/
import Voi.Props.L0.Specs
import Voi.IR.Fast
import Voi.Gen.IR_FieldU64_feMulGeneric
namespace Voi.Props.L0
open Voi.IR

theorem FieldU64_feMulGeneric : check Voi.Gen.FieldU64.feMulGeneric_prog Voi.Gen.FieldU64.feMulGeneric_outs Spec.FieldU64_feMulGeneric = true := check_of_fast (by decide +kernel)

end Voi.Props.L0

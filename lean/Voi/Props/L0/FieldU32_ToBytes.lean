/- Obligation: the regenerated program of internal/field:(*Element).ToBytes (tags force32bit) meets its committed specification. -/
import Voi.Props.L0.Specs
import Voi.IR.Fast
import Voi.Gen.IR_FieldU32_ToBytes
namespace Voi.Props.L0
open Voi.IR

theorem FieldU32_ToBytes : check Voi.Gen.FieldU32.ToBytes_prog Voi.Gen.FieldU32.ToBytes_outs Spec.FieldU32_ToBytes = true := check_of_fast (by decide +kernel)

end Voi.Props.L0

/- Obligation: the regenerated program of internal/field:(*Element).ConditionalAssign (tags force32bit) meets its committed specification. -/
import Voi.Props.L0.Specs
import Voi.IR.Fast
import Voi.Gen.IR_FieldU32_ConditionalAssign
namespace Voi.Props.L0
open Voi.IR

theorem FieldU32_ConditionalAssign : check Voi.Gen.FieldU32.ConditionalAssign_prog Voi.Gen.FieldU32.ConditionalAssign_outs Spec.FieldU32_ConditionalAssign = true := check_of_fast (by decide +kernel)

end Voi.Props.L0

/- Obligation: the regenerated program of internal/field:(*Element).Mul121666 (tags force32bit) meets its committed specification. -/
import Voi.Props.L0.Specs
import Voi.IR.Fast
import Voi.Gen.IR_FieldU32_Mul121666
namespace Voi.Props.L0
open Voi.IR

theorem FieldU32_Mul121666 : check Voi.Gen.FieldU32.Mul121666_prog Voi.Gen.FieldU32.Mul121666_outs Spec.FieldU32_Mul121666 = true := check_of_fast (by decide +kernel)

end Voi.Props.L0

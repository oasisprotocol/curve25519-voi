/-
Obligation (C05, predicate clause): the decision tree that go2ir regenerated from curve/scalar/sc_minimal.go:ScMinimalVartime
(every branch of the control flow explored, comparisons kept as arithmetic) returns 1 exactly when the little-endian
value of the 32 input bytes is below the group order L, for all 2^256 inputs.
The proof script is generic (one lemma application per `if`, then `omega` per path), so a harmless rewrite of the Go
function re-proves itself; a comparison that skips a word, a wrong mask or a wrong constant does not.
`hlex` restates `value < L` as the comparison of the four 64-bit words with those of L, most significant first: a path's
`omega` then meets sums of eight bytes, not of thirty-two.
-/
import Voi.IR.TreeLemmas
import Voi.Gen.IR_Pred_ScMinimalVartime
namespace Voi.Props.L0
open Voi.IR Voi.Gen.Pred

def Lnat : Nat := 2^252 + 27742317777372353535851937790883648493

theorem Pred_ScMinimalVartime
    (b0 b1 b2 b3 b4 b5 b6 b7 b8 b9 b10 b11 b12 b13 b14 b15 b16 b17 b18 b19 b20 b21 b22 b23 b24 b25 b26 b27 b28 b29 b30 b31 : Nat)
    (h0 : b0 < 256) (h1 : b1 < 256) (h2 : b2 < 256) (h3 : b3 < 256) (h4 : b4 < 256) (h5 : b5 < 256) (h6 : b6 < 256) (h7 : b7 < 256)
    (h8 : b8 < 256) (h9 : b9 < 256) (h10 : b10 < 256) (h11 : b11 < 256) (h12 : b12 < 256) (h13 : b13 < 256) (h14 : b14 < 256) (h15 : b15 < 256)
    (h16 : b16 < 256) (h17 : b17 < 256) (h18 : b18 < 256) (h19 : b19 < 256) (h20 : b20 < 256) (h21 : b21 < 256) (h22 : b22 < 256) (h23 : b23 < 256)
    (h24 : b24 < 256) (h25 : b25 < 256) (h26 : b26 < 256) (h27 : b27 < 256) (h28 : b28 < 256) (h29 : b29 < 256) (h30 : b30 < 256) (h31 : b31 < 256) :
    ScMinimalVartime_sh b0 b1 b2 b3 b4 b5 b6 b7 b8 b9 b10 b11 b12 b13 b14 b15 b16 b17 b18 b19 b20 b21 b22 b23 b24 b25 b26 b27 b28 b29 b30 b31
      = [if b0 + 2^8*b1 + 2^16*b2 + 2^24*b3 + 2^32*b4 + 2^40*b5 + 2^48*b6 + 2^56*b7 + 2^64*b8 + 2^72*b9 + 2^80*b10 + 2^88*b11 + 2^96*b12 + 2^104*b13 + 2^112*b14 + 2^120*b15
           + 2^128*b16 + 2^136*b17 + 2^144*b18 + 2^152*b19 + 2^160*b20 + 2^168*b21 + 2^176*b22 + 2^184*b23 + 2^192*b24 + 2^200*b25 + 2^208*b26 + 2^216*b27
           + 2^224*b28 + 2^232*b29 + 2^240*b30 + 2^248*b31 < Lnat then 1 else 0] := by
  have hlex : b0 + 2^8*b1 + 2^16*b2 + 2^24*b3 + 2^32*b4 + 2^40*b5 + 2^48*b6 + 2^56*b7 + 2^64*b8 + 2^72*b9 + 2^80*b10 + 2^88*b11 + 2^96*b12 + 2^104*b13 + 2^112*b14 + 2^120*b15 + 2^128*b16 + 2^136*b17 + 2^144*b18 + 2^152*b19 + 2^160*b20 + 2^168*b21 + 2^176*b22 + 2^184*b23 + 2^192*b24 + 2^200*b25 + 2^208*b26 + 2^216*b27 + 2^224*b28 + 2^232*b29 + 2^240*b30 + 2^248*b31 < Lnat
      ↔ b24 + 2^8*b25 + 2^16*b26 + 2^24*b27 + 2^32*b28 + 2^40*b29 + 2^48*b30 + 2^56*b31 < 0x1000000000000000
        ∨ b24 + 2^8*b25 + 2^16*b26 + 2^24*b27 + 2^32*b28 + 2^40*b29 + 2^48*b30 + 2^56*b31 = 0x1000000000000000
          ∧ b16 + 2^8*b17 + 2^16*b18 + 2^24*b19 + 2^32*b20 + 2^40*b21 + 2^48*b22 + 2^56*b23 = 0
          ∧ (b8 + 2^8*b9 + 2^16*b10 + 2^24*b11 + 2^32*b12 + 2^40*b13 + 2^48*b14 + 2^56*b15 < 0x14def9dea2f79cd6
            ∨ b8 + 2^8*b9 + 2^16*b10 + 2^24*b11 + 2^32*b12 + 2^40*b13 + 2^48*b14 + 2^56*b15 = 0x14def9dea2f79cd6
              ∧ b0 + 2^8*b1 + 2^16*b2 + 2^24*b3 + 2^32*b4 + 2^40*b5 + 2^48*b6 + 2^56*b7 < 0x5812631a5cf5d3ed) := by
    unfold Lnat
    omega
  simp only [hlex]
  clear hlex
  unfold ScMinimalVartime_sh
  repeat' (refine ite_l (fun _ => ?_) (fun _ => ?_))
  all_goals (refine sing_ite (fun _ => ?_) (fun _ => ?_))
  -- `with_reducible`: never try to evaluate a comparison of open terms
  all_goals first | (with_reducible rfl) | (exfalso; omega)

/-- L − 1 and L -/
example : ScMinimalVartime_sh 0xec 0xd3 0xf5 0x5c 0x1a 0x63 0x12 0x58 0xd6 0x9c 0xf7 0xa2 0xde 0xf9 0xde 0x14 0 0 0 0 0 0 0 0 0 0 0 0 0 0 0 0x10 = [1] := by decide
example : ScMinimalVartime_sh 0xed 0xd3 0xf5 0x5c 0x1a 0x63 0x12 0x58 0xd6 0x9c 0xf7 0xa2 0xde 0xf9 0xde 0x14 0 0 0 0 0 0 0 0 0 0 0 0 0 0 0 0x10 = [0] := by decide

end Voi.Props.L0

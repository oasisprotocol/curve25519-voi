/- Obligation: the regenerated program of internal/field:(*Element).Add (tags purego) meets its committed specification. -/
import Voi.Props.L0.Specs
import Voi.IR.Fast
import Voi.Gen.IR_FieldU64_Add
namespace Voi.Props.L0
open Voi.IR

theorem FieldU64_Add : check Voi.Gen.FieldU64.Add_prog Voi.Gen.FieldU64.Add_outs Spec.FieldU64_Add = true := check_of_fast (by decide +kernel)

end Voi.Props.L0

/- Obligation: the regenerated program of internal/field:(*Element).ConditionalSelect (tags force32bit) meets its committed specification. -/
import Voi.Props.L0.Specs
import Voi.IR.Fast
import Voi.Gen.IR_FieldU32_ConditionalSelect
namespace Voi.Props.L0
open Voi.IR

theorem FieldU32_ConditionalSelect : check Voi.Gen.FieldU32.ConditionalSelect_prog Voi.Gen.FieldU32.ConditionalSelect_outs Spec.FieldU32_ConditionalSelect = true := check_of_fast (by decide +kernel)

end Voi.Props.L0

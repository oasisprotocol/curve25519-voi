/- Obligation: the regenerated program of curve/scalar:(*unpackedScalar).MontgomeryMul (tags purego) meets its committed specification. -/
import Voi.Props.L0.Specs
import Voi.IR.Fast
import Voi.Gen.IR_ScalarU64_MontgomeryMul
namespace Voi.Props.L0
open Voi.IR

theorem ScalarU64_MontgomeryMul : check Voi.Gen.ScalarU64.MontgomeryMul_prog Voi.Gen.ScalarU64.MontgomeryMul_outs Spec.ScalarU64_MontgomeryMul = true := check_of_fast (by decide +kernel)

end Voi.Props.L0

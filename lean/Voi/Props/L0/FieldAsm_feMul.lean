/- Obligation: the program asm2ir regenerated from internal/field/field_u64_amd64.s:feMul meets the committed specification
   (the SAME specification as the generic Go code). -/
import Voi.Props.L0.Specs
import Voi.IR.Fast
import Voi.Gen.IR_FieldAsm_feMul
namespace Voi.Props.L0
open Voi.IR

theorem FieldAsm_feMul : check Voi.Gen.FieldAsm.feMul_prog Voi.Gen.FieldAsm.feMul_outs Spec.FieldAsm_feMul = true := check_of_fast (by decide +kernel)

end Voi.Props.L0

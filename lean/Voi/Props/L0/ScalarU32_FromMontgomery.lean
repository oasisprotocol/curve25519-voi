/- Obligation: the regenerated program of curve/scalar:(*unpackedScalar).FromMontgomery (tags force32bit) meets its committed specification. -/
import Voi.Props.L0.Specs
import Voi.IR.Fast
import Voi.Gen.IR_ScalarU32_FromMontgomery
namespace Voi.Props.L0
open Voi.IR

theorem ScalarU32_FromMontgomery : check Voi.Gen.ScalarU32.FromMontgomery_prog Voi.Gen.ScalarU32.FromMontgomery_outs Spec.ScalarU32_FromMontgomery = true := check_of_fast (by decide +kernel)

end Voi.Props.L0

/- Obligation: the regenerated program of curve/scalar:(*unpackedScalar).MontgomeryMul (tags force32bit) meets its committed specification. -/
import Voi.Props.L0.Specs
import Voi.IR.Fast
import Voi.Gen.IR_ScalarU32_MontgomeryMul
namespace Voi.Props.L0
open Voi.IR

theorem ScalarU32_MontgomeryMul : check Voi.Gen.ScalarU32.MontgomeryMul_prog Voi.Gen.ScalarU32.MontgomeryMul_outs Spec.ScalarU32_MontgomeryMul = true := check_of_fast (by decide +kernel)

end Voi.Props.L0

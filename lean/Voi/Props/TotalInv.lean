/-
Property C19: the total models of `Voi/Model/Total.lean`, for byte strings of every length (testing exhausts lengths
only up to a bound).  `…_len`: a wrong length is an error (or `false`), with the receiver in its documented state;
`…_err`: whatever makes a decoder fail, the receiver holds the documented neutral / untouched value; `…_panic`: the
documented-panic set is exactly a condition on lengths / options.

No model predicts a runtime panic: `Outcome` has no such constructor.  The only functions into `KOutcome` are the models
of `x25519.EdPrivateKeyToX25519` and `ed25519.PrivateKey.Public/Seed`, which slice the caller's own private key
unchecked (DESIGN §8, "Not defects …"): they panic exactly below 32 bytes (`d4…`, `d5…`).

For `mRng` and `srVerify` only lengths within 2^32 − 1 are treated.  Beyond it nothing is claimed: `mRng` turns an
oversized `Read` into the documented panic, where Go's `Read` returns an error (merlin.go, `transcriptRng.Read`).
-/
import Voi.Model.Total
import Voi.Props.StrobeInv
namespace Voi.Props.TotalInv
open Voi Voi.Spec Voi.Model.Total

theorem guard_eq_iff {α : Type} {c : Prop} [Decidable c] {a k : α} : (if c then a else k) = a ↔ c ∨ k = a := by
  by_cases h : c <;> simp [h]

theorem guard_eq_iff_of_ne {α : Type} {c : Prop} [Decidable c] {a k : α} (h : k ≠ a) :
    (if c then a else k) = a ↔ c :=
  guard_eq_iff.trans (or_iff_left h)

theorem guard_ne {α : Type} {c : Prop} [Decidable c] {a k x : α} (ha : a ≠ x) (hk : k ≠ x) :
    (if c then a else k) ≠ x := by
  split <;> assumption

theorem guard_or {α : Type} {c₁ c₂ : Prop} [Decidable c₁] [Decidable c₂] {a k : α} (h : c₁ ∨ c₂) :
    (if c₁ then a else if c₂ then a else k) = a := by
  by_cases h₁ : c₁
  · exact if_pos h₁
  · rw [if_neg h₁, if_pos (h.resolve_left h₁)]

theorem shell_cases {E o : Outcome} {len : Nat} {dec : Bytes → Option Bytes} {b : Bytes}
    (ho : o = if b.size ≠ len then E else match dec b with | some r => .ok [r] | none => E) :
    (o = E ∧ (b.size ≠ len ∨ dec b = none)) ∨ (b.size = len ∧ ∃ r, dec b = some r ∧ o = .ok [r]) := by
  subst ho
  by_cases h : b.size = len
  · cases hd : dec b with
    | none => left; simp [h]
    | some r => right; exact ⟨h, r, rfl, by simp [h]⟩
  · left; simp [h]

theorem recvDecode_len {len : Nat} {fail : Bytes} {dec : Bytes → Option Bytes} {b : Bytes}
    (h : b.size ≠ len) : recvDecode len fail dec b = .err (some fail) := if_pos h

theorem recvDecode_cases (len : Nat) (fail : Bytes) (dec : Bytes → Option Bytes) (b : Bytes) :
    (recvDecode len fail dec b = .err (some fail) ∧ (b.size ≠ len ∨ dec b = none)) ∨
    (b.size = len ∧ ∃ r, dec b = some r ∧ recvDecode len fail dec b = .ok [r]) :=
  shell_cases rfl

theorem recvDecode_err {len : Nat} {fail : Bytes} {dec : Bytes → Option Bytes} {b : Bytes} {r : Option Bytes}
    (h : recvDecode len fail dec b = .err r) : r = some fail := by
  rcases recvDecode_cases len fail dec b with ⟨h', _⟩ | ⟨_, _, _, h'⟩ <;> rw [h'] at h <;> cases h; rfl

theorem recvDecode_ok {len : Nat} {fail : Bytes} {dec : Bytes → Option Bytes} {b : Bytes} {d : List Bytes}
    (h : recvDecode len fail dec b = .ok d) : b.size = len ∧ ∃ r, dec b = some r ∧ d = [r] := by
  rcases recvDecode_cases len fail dec b with ⟨h', _⟩ | ⟨hl, r, hd, h'⟩
  · rw [h'] at h; cases h
  · rw [h'] at h; cases h; exact ⟨hl, r, hd, rfl⟩

theorem recvDecode_no_panic (len : Nat) (fail : Bytes) (dec : Bytes → Option Bytes) (b : Bytes) :
    recvDecode len fail dec b ≠ .panicDoc ∧ recvDecode len fail dec b ≠ .fault := by
  rcases recvDecode_cases len fail dec b with ⟨h, _⟩ | ⟨_, r, _, h⟩ <;> rw [h] <;> exact ⟨nofun, nofun⟩

theorem recvDecode_isErr (len : Nat) (fail : Bytes) (dec : Bytes → Option Bytes) (b : Bytes) :
    (recvDecode len fail dec b).isErr = true ↔ b.size ≠ len ∨ dec b = none := by
  rcases recvDecode_cases len fail dec b with ⟨h, hc⟩ | ⟨hl, r, hd, h⟩
  · simp [h, hc, Outcome.isErr]
  · simp [h, hl, hd, Outcome.isErr]

theorem newDecode_len {len : Nat} {dec : Bytes → Option Bytes} {b : Bytes}
    (h : b.size ≠ len) : newDecode len dec b = .err none := if_pos h

theorem newDecode_cases (len : Nat) (dec : Bytes → Option Bytes) (b : Bytes) :
    (newDecode len dec b = .err none ∧ (b.size ≠ len ∨ dec b = none)) ∨
    (b.size = len ∧ ∃ r, dec b = some r ∧ newDecode len dec b = .ok [r]) :=
  shell_cases rfl

theorem newDecode_err {len : Nat} {dec : Bytes → Option Bytes} {b : Bytes} {r : Option Bytes}
    (h : newDecode len dec b = .err r) : r = none := by
  rcases newDecode_cases len dec b with ⟨h', _⟩ | ⟨_, _, _, h'⟩ <;> rw [h'] at h <;> cases h; rfl

theorem newDecode_no_panic (len : Nat) (dec : Bytes → Option Bytes) (b : Bytes) :
    newDecode len dec b ≠ .panicDoc ∧ newDecode len dec b ≠ .fault := by
  rcases newDecode_cases len dec b with ⟨h, _⟩ | ⟨_, r, _, h⟩ <;> rw [h] <;> exact ⟨nofun, nofun⟩

theorem ofOption_no_panic (r : Option Bytes) : ofOption r ≠ .panicDoc ∧ ofOption r ≠ .fault := by
  cases r <;> exact ⟨nofun, nofun⟩

theorem ofOption_err {r : Option Bytes} {x : Option Bytes} (h : ofOption r = .err x) : x = none ∧ r = none := by
  cases r with
  | none => cases h; exact ⟨rfl, rfl⟩
  | some _ => cases h

theorem ofOption_none {r : Option Bytes} (h : r = none) : ofOption r = .err none := by
  rw [h]
  rfl

theorem ceySetBytes_len (rcv0 b : Bytes) (h : b.size ≠ 32) : ceySetBytes rcv0 b = .err (some rcv0) := recvDecode_len h
theorem ceySetBytes_err {rcv0 b : Bytes} {r} (h : ceySetBytes rcv0 b = .err r) : r = some rcv0 := recvDecode_err h
theorem ceySetBytes_iff (rcv0 b : Bytes) : (ceySetBytes rcv0 b).isErr = true ↔ b.size ≠ 32 := by
  simp [ceySetBytes, recvDecode_isErr]

theorem ceyUnmarshal_len (b : Bytes) (h : b.size ≠ 32) : ceyUnmarshal b = .err (some edIdentity) := recvDecode_len h
theorem ceyUnmarshal_err {b : Bytes} {r} (h : ceyUnmarshal b = .err r) : r = some edIdentity := recvDecode_err h
theorem ceyUnmarshal_ok {b : Bytes} {d} (h : ceyUnmarshal b = .ok d) : d = [b] ∧ b.size = 32 := by
  obtain ⟨hl, r, hd, rfl⟩ := recvDecode_ok h
  simp only [edKeep, Option.map_eq_some_iff] at hd
  obtain ⟨_, _, rfl⟩ := hd
  exact ⟨rfl, hl⟩

theorem ceyNew_len (b : Bytes) (h : b.size ≠ 32) : ceyNew b = .err none := newDecode_len h
theorem epUnmarshal_len (b : Bytes) (h : b.size ≠ 32) : epUnmarshal b = .err (some edIdentity) := recvDecode_len h
theorem epUnmarshal_err {b : Bytes} {r} (h : epUnmarshal b = .err r) : r = some edIdentity := recvDecode_err h
theorem epSetCompressed_len (rcv0 b : Bytes) (h : b.size ≠ 32) : epSetCompressed rcv0 b = .err (some rcv0) := recvDecode_len h
theorem epSetCompressed_err {rcv0 b : Bytes} {r} (h : epSetCompressed rcv0 b = .err r) : r = some rcv0 := recvDecode_err h
theorem epSetMontgomery_len (rcv0 u : Bytes) (s : Nat) (h : u.size ≠ 32) : epSetMontgomery rcv0 u s = .err (some rcv0) := recvDecode_len h
theorem epSetMontgomery_err {rcv0 u : Bytes} {s : Nat} {r} (h : epSetMontgomery rcv0 u s = .err r) : r = some rcv0 := recvDecode_err h
/-- only bit 0 of the sign argument matters -/
theorem epSetMontgomery_sign (rcv0 u : Bytes) (s : Nat) : epSetMontgomery rcv0 u (s + 2) = epSetMontgomery rcv0 u s := by
  simp [epSetMontgomery]

theorem crSetBytes_len (rcv0 b : Bytes) (h : b.size ≠ 32) : crSetBytes rcv0 b = .err (some rcv0) := recvDecode_len h
theorem crSetBytes_err {rcv0 b : Bytes} {r} (h : crSetBytes rcv0 b = .err r) : r = some rcv0 := recvDecode_err h
theorem crUnmarshal_len (b : Bytes) (h : b.size ≠ 32) : crUnmarshal b = .err (some ristIdentity) := recvDecode_len h
theorem crUnmarshal_err {b : Bytes} {r} (h : crUnmarshal b = .err r) : r = some ristIdentity := recvDecode_err h
theorem rpUnmarshal_len (b : Bytes) (h : b.size ≠ 32) : rpUnmarshal b = .err (some ristIdentity) := recvDecode_len h
theorem rpUnmarshal_err {b : Bytes} {r} (h : rpUnmarshal b = .err r) : r = some ristIdentity := recvDecode_err h
theorem rpSetCompressed_len (rcv0 b : Bytes) (h : b.size ≠ 32) : rpSetCompressed rcv0 b = .err (some rcv0) := recvDecode_len h
theorem rpSetCompressed_err {rcv0 b : Bytes} {r} (h : rpSetCompressed rcv0 b = .err r) : r = some rcv0 := recvDecode_err h
theorem rpSetUniform_len (rcv0 b : Bytes) (h : b.size ≠ 64) : rpSetUniform rcv0 b = .err (some rcv0) := recvDecode_len h
theorem rpSetUniform_err {rcv0 b : Bytes} {r} (h : rpSetUniform rcv0 b = .err r) : r = some rcv0 := recvDecode_err h
theorem rpSetUniform_iff (rcv0 b : Bytes) : (rpSetUniform rcv0 b).isErr = true ↔ b.size ≠ 64 := by
  simp [rpSetUniform, recvDecode_isErr, Ristretto.fromUniformBytes]
theorem mpSetBytes_len (rcv0 b : Bytes) (h : b.size ≠ 32) : mpSetBytes rcv0 b = .err (some rcv0) := recvDecode_len h
theorem mpSetBytes_err {rcv0 b : Bytes} {r} (h : mpSetBytes rcv0 b = .err r) : r = some rcv0 := recvDecode_err h
theorem mpSetBytes_iff (rcv0 b : Bytes) : (mpSetBytes rcv0 b).isErr = true ↔ b.size ≠ 32 := by
  simp [mpSetBytes, recvDecode_isErr]

theorem scSetModOrder_len (rcv0 b : Bytes) (h : b.size ≠ 32) : scSetModOrder rcv0 b = .err (some rcv0) := recvDecode_len h
theorem scSetModOrder_err {rcv0 b : Bytes} {r} (h : scSetModOrder rcv0 b = .err r) : r = some rcv0 := recvDecode_err h
theorem scSetModOrder_iff (rcv0 b : Bytes) : (scSetModOrder rcv0 b).isErr = true ↔ b.size ≠ 32 := by
  simp [scSetModOrder, recvDecode_isErr, scReduce]
theorem scSetWide_len (rcv0 b : Bytes) (h : b.size ≠ 64) : scSetWide rcv0 b = .err (some rcv0) := recvDecode_len h
theorem scSetWide_err {rcv0 b : Bytes} {r} (h : scSetWide rcv0 b = .err r) : r = some rcv0 := recvDecode_err h
theorem scSetWide_iff (rcv0 b : Bytes) : (scSetWide rcv0 b).isErr = true ↔ b.size ≠ 64 := by
  simp [scSetWide, recvDecode_isErr, scReduce]
theorem scSetCanonical_len (rcv0 b : Bytes) (h : b.size ≠ 32) : scSetCanonical rcv0 b = .err (some rcv0) := recvDecode_len h
theorem scSetCanonical_err {rcv0 b : Bytes} {r} (h : scSetCanonical rcv0 b = .err r) : r = some rcv0 := recvDecode_err h
theorem scSetCanonical_iff (rcv0 b : Bytes) : (scSetCanonical rcv0 b).isErr = true ↔ b.size ≠ 32 ∨ ¬ leNat b < L := by
  simp [scSetCanonical, recvDecode_isErr, scCanonical]
theorem scSetBits_len (rcv0 b : Bytes) (h : b.size ≠ 32) : scSetBits rcv0 b = .err (some rcv0) := recvDecode_len h
theorem scSetBits_err {rcv0 b : Bytes} {r} (h : scSetBits rcv0 b = .err r) : r = some rcv0 := recvDecode_err h
theorem scSetBits_iff (rcv0 b : Bytes) : (scSetBits rcv0 b).isErr = true ↔ b.size ≠ 32 := by
  simp [scSetBits, recvDecode_isErr, scBits]
theorem scUnmarshal_len (rcv0 b : Bytes) (h : b.size ≠ 32) : scUnmarshal rcv0 b = .err (some rcv0) := recvDecode_len h
theorem scUnmarshal_err {rcv0 b : Bytes} {r} (h : scUnmarshal rcv0 b = .err r) : r = some rcv0 := recvDecode_err h
theorem scNewModOrder_len (b : Bytes) (h : b.size ≠ 32) : scNewModOrder b = .err none := newDecode_len h
theorem scNewWide_len (b : Bytes) (h : b.size ≠ 64) : scNewWide b = .err none := newDecode_len h
theorem scNewCanonical_len (b : Bytes) (h : b.size ≠ 32) : scNewCanonical b = .err none := newDecode_len h
theorem scNewBits_len (b : Bytes) (h : b.size ≠ 32) : scNewBits b = .err none := newDecode_len h
theorem scMinimal_len (b : Bytes) (h : b.size ≠ 32) : scMinimal b = .boolean false := by
  simp [scMinimal, h]
theorem scToBytes_len (s out : Bytes) (h : out.size ≠ 32) : scToBytes s out = .err (some out) := recvDecode_len h
theorem scToBytes_ok (s out : Bytes) (h : out.size = 32) : scToBytes s out = .ok [s] := by
  simp [scToBytes, recvDecode, h]

theorem scNaf_panic (w : Nat) : scNaf w = .panicDoc ↔ w < 2 ∨ w > 8 := guard_eq_iff_of_ne nofun
theorem scRadix2w_panic (w : Nat) : scRadix2w w = .panicDoc ↔ ¬ (w = 6 ∨ w = 7 ∨ w = 8) := by
  unfold scRadix2w; split <;> simp_all
theorem scRadixHint_panic (w : Nat) : scRadixHint w = .panicDoc ↔ ¬ (w = 6 ∨ w = 7 ∨ w = 8) := by
  rw [← or_assoc]
  unfold scRadixHint
  split
  · simp [*]
  · split <;> simp [*]
theorem msmEd_panic (ns np : Nat) : msmEd ns np = .panicDoc ↔ ns ≠ np := guard_eq_iff_of_ne nofun
theorem msmEdx_panic (ns np ds dp : Nat) : msmEdx ns np ds dp = .panicDoc ↔ ns ≠ np ∨ ds ≠ dp :=
  guard_eq_iff_of_ne nofun
theorem msmRist_panic (ns np : Nat) : msmRist ns np = .panicDoc ↔ ns ≠ np := guard_eq_iff_of_ne nofun
theorem msmRistx_panic (ns np ds dp : Nat) : msmRistx ns np ds dp = .panicDoc ↔ ns ≠ np ∨ ds ≠ dp :=
  guard_eq_iff_of_ne nofun

theorem edMode_default (n : Nat) : edMode edDefault n = some none := by
  simp [edMode, edDefault, Ed25519.modeOf]

/-- what `VerifyWithOptions`, `VerifyExpandedWithOptions` and the caching verifier do once the key is accepted -/
def withOpts (o : Option EdOptions) (pk msg sig : Bytes) : Outcome :=
  match o with
  | none => .panicDoc
  | some o =>
    match edMode o msg.size with
    | none => .panicDoc
    | some f => .boolean (Ed25519.verify (edVOpts o) f o.ctx pk msg sig)

theorem edVerifyWithOptions_eq (o : Option EdOptions) (pk msg sig : Bytes) :
    edVerifyWithOptions o pk msg sig = if pk.size ≠ 32 then .panicDoc else withOpts o pk msg sig := rfl
theorem edVerifyExpandedWithOptions_eq (o : Option EdOptions) (pk msg sig : Bytes) :
    edVerifyExpandedWithOptions o pk msg sig =
      match Pt.decode pk with | none => .err none | some _ => withOpts o pk msg sig := rfl
theorem cacheVerifyWithOptions_eq (o : Option EdOptions) (pk msg sig : Bytes) :
    cacheVerifyWithOptions o pk msg sig =
      match Pt.decode pk with | none => .boolean false | some _ => withOpts o pk msg sig := rfl

/-- `edMode … = none`: incompatible flags, context longer than 255, unsupported hash, or Ed25519ph with a message that
is not 64 bytes -/
theorem withOpts_panic (o : Option EdOptions) (pk msg sig : Bytes) :
    withOpts o pk msg sig = .panicDoc ↔ o = none ∨ ∃ o', o = some o' ∧ edMode o' msg.size = none := by
  unfold withOpts
  cases o with
  | none => simp
  | some o' => cases hm : edMode o' msg.size <;> simp [hm]

theorem withOpts_default (pk msg sig : Bytes) :
    withOpts (some edDefault) pk msg sig = .boolean (Ed25519.verify (edVOpts edDefault) none edDefault.ctx pk msg sig) := by
  simp [withOpts, edMode_default]

theorem edVerifyWithOptions_panic (o : Option EdOptions) (pk msg sig : Bytes) :
    edVerifyWithOptions o pk msg sig = .panicDoc ↔
      pk.size ≠ 32 ∨ o = none ∨ ∃ o', o = some o' ∧ edMode o' msg.size = none := by
  rw [edVerifyWithOptions_eq, guard_eq_iff, withOpts_panic]

theorem edVerify_panic (pk msg sig : Bytes) : edVerify pk msg sig = .panicDoc ↔ pk.size ≠ 32 := by
  unfold edVerify
  rw [edVerifyWithOptions_eq, withOpts_default]
  exact guard_eq_iff_of_ne nofun

theorem edVerifyWithOptions_total (o : Option EdOptions) (pk msg sig : Bytes) :
    edVerifyWithOptions o pk msg sig = .panicDoc ∨ ∃ b, edVerifyWithOptions o pk msg sig = .boolean b := by
  unfold edVerifyWithOptions
  split
  · left; rfl
  · split
    · left; rfl
    · split
      · left; rfl
      · right; exact ⟨_, rfl⟩

theorem edVerify_sig_len (pk msg sig : Bytes) (hpk : pk.size = 32) (h : sig.size ≠ 64) :
    edVerify pk msg sig = .boolean false := by
  simp [edVerify, edVerifyWithOptions, hpk, edMode_default, Ed25519.verify, h]

theorem edVerifyExpandedWithOptions_panic (o : Option EdOptions) (pk msg sig : Bytes) :
    edVerifyExpandedWithOptions o pk msg sig = .panicDoc ↔
      (Pt.decode pk).isSome ∧ (o = none ∨ ∃ o', o = some o' ∧ edMode o' msg.size = none) := by
  rw [edVerifyExpandedWithOptions_eq, ← withOpts_panic o pk msg sig]
  cases Pt.decode pk <;> simp

theorem edVerifyExpanded_no_panic (pk msg sig : Bytes) : edVerifyExpanded pk msg sig ≠ .panicDoc := by
  unfold edVerifyExpanded
  rw [edVerifyExpandedWithOptions_eq, withOpts_default]
  split <;> nofun

theorem edBatchEntry_some (o : EdOptions) (pk msg sig : Bytes) :
    edBatchEntry (some o) pk msg sig = .boolean (match edMode o msg.size with
      | none => false
      | some f => Ed25519.verify (edVOpts o) f o.ctx pk msg sig) := by
  simp only [edBatchEntry]
  cases edMode o msg.size <;> rfl

theorem edBatchEntry_panic (o : Option EdOptions) (pk msg sig : Bytes) :
    edBatchEntry o pk msg sig = .panicDoc ↔ o = none := by
  cases o with
  | none => simp [edBatchEntry]
  | some o' => simp [edBatchEntry_some]

theorem edBatchEntry_total (o : EdOptions) (pk msg sig : Bytes) :
    ∃ b, edBatchEntry (some o) pk msg sig = .boolean b :=
  ⟨_, edBatchEntry_some o pk msg sig⟩

theorem decode_len {b : Bytes} (h : b.size ≠ 32) : Pt.decode b = none := if_pos h

theorem verify_pk_len (o : Ed25519.VOpts) (f : Ed25519.Dom) (ctx pk msg sig : Bytes) (h : pk.size ≠ 32) :
    Ed25519.verify o f ctx pk msg sig = false := by
  simp [Ed25519.verify, decode_len h]

theorem edBatchEntry_pk_len (o : EdOptions) (pk msg sig : Bytes) (h : pk.size ≠ 32) :
    edBatchEntry (some o) pk msg sig = .boolean false := by
  rw [edBatchEntry_some]
  cases edMode o msg.size <;> simp [verify_pk_len _ _ _ _ _ _ h]

theorem cacheVerifyWithOptions_panic (o : Option EdOptions) (pk msg sig : Bytes) :
    cacheVerifyWithOptions o pk msg sig = .panicDoc ↔
      (Pt.decode pk).isSome ∧ (o = none ∨ ∃ o', o = some o' ∧ edMode o' msg.size = none) := by
  rw [cacheVerifyWithOptions_eq, ← withOpts_panic o pk msg sig]
  cases Pt.decode pk <;> simp

theorem cacheVerifyWithOptions_pk_len (o : Option EdOptions) (pk msg sig : Bytes) (h : pk.size ≠ 32) :
    cacheVerifyWithOptions o pk msg sig = .boolean false := by
  simp [cacheVerifyWithOptions, decode_len h]

theorem cacheVerify_no_panic (pk msg sig : Bytes) : cacheVerify pk msg sig ≠ .panicDoc := by
  unfold cacheVerify
  rw [cacheVerifyWithOptions_eq, withOpts_default]
  split <;> nofun

theorem edNewExpanded_len (pk : Bytes) (h : pk.size ≠ 32) : edNewExpanded pk = .err none := newDecode_len h

theorem edNewKey_panic (seed : Bytes) : edNewKey seed = .panicDoc ↔ seed.size ≠ 32 := guard_eq_iff_of_ne nofun

theorem edSign_panic (sk msg : Bytes) : edSign sk msg = .panicDoc ↔ sk.size ≠ 64 := guard_eq_iff_of_ne nofun

theorem edPkSign_panic (o : Option EdOptions) (sk msg : Bytes) : edPkSign o sk msg = .panicDoc ↔ o = none := by
  cases o with
  | none => simp [edPkSign]
  | some o' =>
    cases hm : edMode o' msg.size with
    | none => simp [edPkSign, hm]
    | some f => by_cases h : sk.size = 64 <;> simp [edPkSign, hm, h]

theorem edPkSign_err (o : EdOptions) (sk msg : Bytes) :
    (edPkSign (some o) sk msg).isErr = true ↔ edMode o msg.size = none ∨ sk.size ≠ 64 := by
  cases hm : edMode o msg.size with
  | none => simp [edPkSign, hm, Outcome.isErr]
  | some f => by_cases h : sk.size = 64 <;> simp [edPkSign, hm, h, Outcome.isErr]

theorem vrfProve_len (withY : Bool) (sk alpha : Bytes) (h : sk.size ≠ 64) : vrfProve withY sk alpha = .panicDoc :=
  if_pos h
/-- with a 64-byte key, `ECVRF.prove … = none` means that hashing to the curve failed -/
theorem vrfProve_panic (withY : Bool) (sk alpha : Bytes) :
    vrfProve withY sk alpha = .panicDoc ↔ sk.size ≠ 64 ∨ ECVRF.prove withY none sk alpha = none := by
  unfold vrfProve
  rw [guard_eq_iff]
  cases ECVRF.prove withY none sk alpha <;> simp
theorem vrfProveRnd_len (withY : Bool) (sk alpha ent : Bytes) (h : sk.size ≠ 64) :
    vrfProveRnd withY sk alpha ent = .err none :=
  if_pos h
theorem vrfProveRnd_entropy (withY : Bool) (sk alpha ent : Bytes) (h : ent.size < 32) :
    vrfProveRnd withY sk alpha ent = .err none :=
  guard_or (.inr h)
theorem vrfProveRnd_no_panic (withY : Bool) (sk alpha ent : Bytes) : vrfProveRnd withY sk alpha ent ≠ .panicDoc :=
  guard_ne nofun (guard_ne nofun (ofOption_no_panic _).1)
/-- in Go: `(false, nil)` or `(true, beta)` -/
theorem vrfVerify_total (withY : Bool) (pk pi alpha : Bytes) :
    vrfVerify withY pk pi alpha = .boolean false ∨ ∃ beta, vrfVerify withY pk pi alpha = .ok [beta] := by
  unfold vrfVerify
  cases ECVRF.verify withY pk pi alpha with
  | none => left; rfl
  | some b => right; exact ⟨b, rfl⟩
theorem vrfVerify_pk_len (withY : Bool) (pk pi alpha : Bytes) (h : pk.size ≠ 32) :
    vrfVerify withY pk pi alpha = .boolean false := by
  simp [vrfVerify, ECVRF.verify, ECVRF.stringToPoint, h]
theorem vrfHash_len (pi : Bytes) (h : pi.size ≠ 80) : vrfHash pi = .err none := if_pos h
theorem vrfHash_no_panic (pi : Bytes) : vrfHash pi ≠ .panicDoc := guard_ne nofun (ofOption_no_panic _).1

theorem normal_not_runtime (o : Outcome) : (KOutcome.normal o).isPanicRuntime = false := rfl

theorem d4EdPriv_panic (sk : Bytes) : d4EdPriv sk = .panicRuntime ↔ sk.size < 32 := guard_eq_iff_of_ne nofun
theorem d5Public_panic (sk : Bytes) : d5Public sk = .panicRuntime ↔ sk.size < 32 := guard_eq_iff_of_ne nofun
theorem d5Seed_panic (sk : Bytes) : d5Seed sk = .panicRuntime ↔ sk.size < 32 := guard_eq_iff_of_ne nofun

theorem xX25519_len (k u : Bytes) (h : k.size ≠ 32 ∨ u.size ≠ 32) : xX25519 k u = .err none :=
  ofOption_none (if_pos h)
theorem xX25519_no_panic (k u : Bytes) : xX25519 k u ≠ .panicDoc := (ofOption_no_panic _).1
theorem xX25519Base_len (k : Bytes) (h : k.size ≠ 32) : xX25519Base k = .err none := if_pos h
theorem xEdPub_len (pk : Bytes) (h : pk.size ≠ 32) : xEdPub pk = .boolean false := by
  simp [xEdPub, X25519.edPubToX25519, decode_len h]

theorem h2cXmd_len (h : H2C.HashFn) (dst msg : Bytes) (n : Nat) (hn : n = 0 ∨ n > 65535) :
    h2cXmd h dst msg n = .err none :=
  ofOption_none (guard_or (.inr hn))
theorem h2cXof_len (X : H2C.XofFn) (dst msg : Bytes) (n : Nat) (hn : n = 0 ∨ n > 65535) :
    h2cXof X dst msg n = .err none :=
  ofOption_none (if_pos hn)
theorem h2cXmd_no_panic (h : H2C.HashFn) (dst msg : Bytes) (n : Nat) : h2cXmd h dst msg n ≠ .panicDoc :=
  (ofOption_no_panic _).1
theorem h2cXof_no_panic (X : H2C.XofFn) (dst msg : Bytes) (n : Nat) : h2cXof X dst msg n ≠ .panicDoc :=
  (ofOption_no_panic _).1
theorem h2cRO_no_panic (ex : H2C.Expander) (dst msg : Bytes) : h2cRO ex dst msg ≠ .panicDoc := (ofOption_no_panic _).1
theorem h2cNU_no_panic (ex : H2C.Expander) (dst msg : Bytes) : h2cNU ex dst msg ≠ .panicDoc := (ofOption_no_panic _).1
theorem h2cRist_no_panic (ex : H2C.Expander) (dst msg : Bytes) : h2cRist ex dst msg ≠ .panicDoc := (ofOption_no_panic _).1
/-- 32 = 2k/8 with k = `kSuite`; this refuses SHA-224 -/
theorem h2cXmd_small_hash (h : H2C.HashFn) (dst msg : Bytes) (n : Nat) (hb : h.b < 32) :
    h2cXmd h dst msg n = .err none :=
  ofOption_none (if_pos (by simpa [H2C.kSuite] using hb))

section Merlin
open Voi.Spec.Merlin Voi.Props.StrobeInv

theorem appendMessage_tooLong (t : Transcript) (label msg : List UInt8)
    (h : label.length > maxUint32 ∨ msg.length > maxUint32) : appendMessage t label msg = .error .tooLong :=
  guard_or h

theorem extractBytes_tooLong (t : Transcript) (label : List UInt8) (n : Nat)
    (h : label.length > maxUint32 ∨ n > maxUint32) : extractBytes t label n = .error .tooLong :=
  guard_or h

theorem newTranscript_tooLong (app : List UInt8) (h : app.length > maxUint32) : newTranscript app = .error .tooLong := by
  obtain ⟨s, _, e⟩ := newTranscript_eq
  rw [e]
  exact appendMessage_tooLong _ _ _ (Or.inr h)

theorem mSeq_spec (app label msg elabel : List UInt8) (n : Nat) :
    ((app.length ≤ maxUint32 ∧ label.length ≤ maxUint32 ∧ msg.length ≤ maxUint32 ∧
        elabel.length ≤ maxUint32 ∧ n ≤ maxUint32) ∧
      ∃ out, mSeq app label msg elabel n = .ok [Sr25519.ofL out] ∧ out.length = n) ∨
    (¬ (app.length ≤ maxUint32 ∧ label.length ≤ maxUint32 ∧ msg.length ≤ maxUint32 ∧
        elabel.length ≤ maxUint32 ∧ n ≤ maxUint32) ∧
      mSeq app label msg elabel n = .panicDoc) := by
  -- `mSeq` is unfolded unapplied, so that the kernel compares two bodies as they stand.  Asked whether the applied
  -- `mSeq app …` is its body, it reduces the body's `match` first and for that evaluates `newTranscript app` as far
  -- as `New("Merlin v1.0")`, a Keccak permutation.
  rw [show mSeq = _ from by delta mSeq; rfl]
  by_cases ha : app.length ≤ maxUint32
  · obtain ⟨t0, e0, v0⟩ := newTranscript_ok app ha
    by_cases hlm : label.length ≤ maxUint32 ∧ msg.length ≤ maxUint32
    · obtain ⟨t1, e1, v1⟩ := appendMessage_ok t0 label msg v0 hlm.1 hlm.2
      by_cases hen : elabel.length ≤ maxUint32 ∧ n ≤ maxUint32
      · obtain ⟨t2, out, e2, _, l2⟩ := extractBytes_ok t1 elabel n v1 hen.1 hen.2
        simp only [e0, e1, e2]
        exact .inl ⟨⟨ha, hlm.1, hlm.2, hen⟩, out, rfl, l2⟩
      · simp only [e0, e1, extractBytes_tooLong t1 elabel n (by omega)]
        exact .inr ⟨by omega, rfl⟩
    · simp only [e0, appendMessage_tooLong t0 label msg (by omega)]
      exact .inr ⟨by omega, rfl⟩
  · simp only [newTranscript_tooLong app (by omega)]
    exact .inr ⟨by omega, rfl⟩

theorem mSeq_ok (app label msg elabel : List UInt8) (n : Nat)
    (ha : app.length ≤ maxUint32) (hl : label.length ≤ maxUint32) (hm : msg.length ≤ maxUint32)
    (he : elabel.length ≤ maxUint32) (hn : n ≤ maxUint32) :
    ∃ out, mSeq app label msg elabel n = .ok [Sr25519.ofL out] ∧ out.length = n :=
  ((mSeq_spec app label msg elabel n).resolve_right fun h => h.1 ⟨ha, hl, hm, he, hn⟩).2

theorem mSeq_panic (app label msg elabel : List UInt8) (n : Nat) :
    mSeq app label msg elabel n = .panicDoc ↔
      ¬ (app.length ≤ maxUint32 ∧ label.length ≤ maxUint32 ∧ msg.length ≤ maxUint32 ∧
         elabel.length ≤ maxUint32 ∧ n ≤ maxUint32) := by
  rcases mSeq_spec app label msg elabel n with ⟨h, out, e, _⟩ | ⟨h, e⟩ <;> simp [e, h]

/-- `fault` would be a STROBE index out of range (`ofMErr`) -/
theorem mSeq_no_fault (app label msg elabel : List UInt8) (n : Nat) : mSeq app label msg elabel n ≠ .fault := by
  rcases mSeq_spec app label msg elabel n with ⟨_, out, e, _⟩ | ⟨_, e⟩ <;> rw [e] <;> nofun

theorem rekey_tooLong (rb : RngBuilder) (label witness : List UInt8)
    (h : label.length > maxUint32 ∨ witness.length > maxUint32) :
    rekeyWithWitnessBytes rb label witness = .error .tooLong :=
  guard_or h

theorem mRng_ok (app wlabel witness entropy : List UInt8) (n : Nat)
    (ha : app.length ≤ maxUint32) (hl : wlabel.length ≤ maxUint32) (hw : witness.length ≤ maxUint32)
    (hn : n ≤ maxUint32) :
    (entropy.length < 32 → mRng app wlabel witness entropy n = .err none) ∧
    (32 ≤ entropy.length → ∃ out, mRng app wlabel witness entropy n = .ok [Sr25519.ofL out] ∧ out.length = n) := by
  obtain ⟨t0, e0, v0⟩ := newTranscript_ok app ha
  obtain ⟨s1, e1, v1⟩ := rekey_ok t0.s wlabel witness v0 hl hw
  rw [show mRng = _ from by delta mRng; rfl]  -- as in `mSeq_spec`
  simp only [e0, show rekeyWithWitnessBytes (buildRng t0) wlabel witness = _ from e1]
  constructor
  · intro he
    rw [finalize, if_pos he]
    rfl
  · intro he
    obtain ⟨s2, e2, v2⟩ := finalize_ok s1 entropy v1 he
    obtain ⟨r3, out, e3, _, l3⟩ := read_ok { s := s2 } n v2 hn
    exact ⟨out, by simp only [e2, e3], l3⟩

theorem mRng_no_fault (app wlabel witness entropy : List UInt8) (n : Nat)
    (ha : app.length ≤ maxUint32) (hl : wlabel.length ≤ maxUint32) (hw : witness.length ≤ maxUint32)
    (hn : n ≤ maxUint32) : mRng app wlabel witness entropy n ≠ .fault ∧ mRng app wlabel witness entropy n ≠ .panicDoc := by
  obtain ⟨h1, h2⟩ := mRng_ok app wlabel witness entropy n ha hl hw hn
  by_cases he : entropy.length < 32
  · rw [h1 he]; exact ⟨nofun, nofun⟩
  · obtain ⟨out, e, _⟩ := h2 (by omega)
    rw [e]; exact ⟨nofun, nofun⟩

end Merlin

section Sr
open Voi.Spec.Sr25519

theorem srRecv_err {α : Type} {unm : Option α → Bytes → Option α × Bool} {marshal : Option α → Bytes}
    {old fail : Option α} {b : Bytes} {r : Option Bytes}
    (hf : (unm old b).2 = false → (unm old b).1 = fail) (h : srRecv unm marshal old b = .err r) :
    r = some (marshal fail) := by
  unfold srRecv at h
  cases h2 : (unm old b).2 <;> simp [h2] at h
  rw [← h, hf h2]

theorem srRecv_guard {α : Type} {unm : Option α → Bytes → Option α × Bool} {marshal : Option α → Bytes}
    {old fail : Option α} {b : Bytes} {c : Prop} [Decidable c] (hc : c → unm old b = (fail, false)) :
    (if c then .err (some (marshal fail)) else srRecv unm marshal old b) = srRecv unm marshal old b := by
  refine ite_eq_right_iff.mpr fun h => ?_
  simp [srRecv, hc h]

theorem srSigUnmarshal_len (old : Option Signature) (b : Bytes) (h : b.size ≠ 64) :
    srSigUnmarshal old b = .err (some (marshalSignature none)) := if_pos h
theorem srPkUnmarshal_len (old : Option PublicKey) (b : Bytes) (h : b.size ≠ 32) :
    srPkUnmarshal old b = .err (some (marshalPublicKey none)) := if_pos h
theorem srSkUnmarshal_len (old : Option SecretKey) (b : Bytes) (h : b.size ≠ 64) :
    srSkUnmarshal old b = .err (some (marshalSecretKey old)) := if_pos h
theorem srKpUnmarshal_len (old : Option KeyPair) (b : Bytes) (h : b.size ≠ 96) :
    srKpUnmarshal old b = .err (some (marshalKeyPair none)) := if_pos h
theorem srMskUnmarshal_len (old : Option Bytes) (b : Bytes) (h : b.size ≠ 32) :
    srMskUnmarshal old b = .err (some (marshalMiniSecretKey old)) := if_pos h

/-- the shell's explicit length check is redundant: the Spec's decoder rejects the same lengths -/
theorem srSigUnmarshal_spec (old : Option Signature) (b : Bytes) :
    srSigUnmarshal old b = srRecv Signature.unmarshalInto marshalSignature old b :=
  srRecv_guard fun h => by simp [Signature.unmarshalInto, decodeSignature, h]
theorem srPkUnmarshal_spec (old : Option PublicKey) (b : Bytes) :
    srPkUnmarshal old b = srRecv PublicKey.unmarshalInto marshalPublicKey old b :=
  srRecv_guard fun h => by simp [PublicKey.unmarshalInto, decodePublicKey, h]
theorem srSkUnmarshal_spec (old : Option SecretKey) (b : Bytes) :
    srSkUnmarshal old b = srRecv SecretKey.unmarshalInto marshalSecretKey old b :=
  srRecv_guard fun h => by simp [SecretKey.unmarshalInto, decodeSecretKey, h]
theorem srKpUnmarshal_spec (old : Option KeyPair) (b : Bytes) :
    srKpUnmarshal old b = srRecv KeyPair.unmarshalInto marshalKeyPair old b :=
  srRecv_guard fun h => by simp [KeyPair.unmarshalInto, decodeKeyPair, h]
theorem srMskUnmarshal_spec (old : Option Bytes) (b : Bytes) :
    srMskUnmarshal old b = srRecv MiniSecretKey.unmarshalInto marshalMiniSecretKey old b :=
  srRecv_guard fun h => by simp [MiniSecretKey.unmarshalInto, decodeMiniSecretKey, h]

theorem srSigUnmarshal_err {old : Option Signature} {b : Bytes} {r} (h : srSigUnmarshal old b = .err r) :
    r = some (marshalSignature none) :=
  srRecv_err (by unfold Signature.unmarshalInto; split <;> simp) (srSigUnmarshal_spec old b ▸ h)
theorem srPkUnmarshal_err {old : Option PublicKey} {b : Bytes} {r} (h : srPkUnmarshal old b = .err r) :
    r = some (marshalPublicKey none) :=
  srRecv_err (by unfold PublicKey.unmarshalInto; split <;> simp) (srPkUnmarshal_spec old b ▸ h)
theorem srKpUnmarshal_err {old : Option KeyPair} {b : Bytes} {r} (h : srKpUnmarshal old b = .err r) :
    r = some (marshalKeyPair none) :=
  srRecv_err (by unfold KeyPair.unmarshalInto; split <;> simp) (srKpUnmarshal_spec old b ▸ h)
/-- `SecretKey` and `MiniSecretKey` are not reset on failure -/
theorem srSkUnmarshal_err {old : Option SecretKey} {b : Bytes} {r} (h : srSkUnmarshal old b = .err r) :
    r = some (marshalSecretKey old) :=
  srRecv_err (by unfold SecretKey.unmarshalInto; split <;> simp) (srSkUnmarshal_spec old b ▸ h)
theorem srMskUnmarshal_err {old : Option Bytes} {b : Bytes} {r} (h : srMskUnmarshal old b = .err r) :
    r = some (marshalMiniSecretKey old) :=
  srRecv_err (by unfold MiniSecretKey.unmarshalInto; split <;> simp) (srMskUnmarshal_spec old b ▸ h)

theorem srSigNew_len (b : Bytes) (h : b.size ≠ 64) : srSigNew b = .err none := if_pos h
theorem srPkNew_len (b : Bytes) (h : b.size ≠ 32) : srPkNew b = .err none := if_pos h
theorem srSkNew_len (b : Bytes) (h : b.size ≠ 64) : srSkNew b = .err none := if_pos h
theorem srSkEdNew_len (b : Bytes) (h : b.size ≠ 64) : srSkEdNew b = .err none := if_pos h
theorem srKpNew_len (b : Bytes) (h : b.size ≠ 96) : srKpNew b = .err none := if_pos h
theorem srMskNew_len (b : Bytes) (h : b.size ≠ 32) : srMskNew b = .err none := if_pos h

section
open Voi.Spec.Merlin Voi.Props.StrobeInv

theorem toL_length (b : Bytes) : (Sr25519.toL b).length = b.size := by
  simp [Sr25519.toL]

theorem commitBytes_ok (t : Transcript) (label : String) (b : Bytes) (v : Valid t.s)
    (hl : (lb label).length ≤ maxUint32) (hb : b.size ≤ maxUint32) :
    ∃ t', commitBytes t label b = .ok t' ∧ Valid t'.s :=
  appendMessage_ok t (lb label) (Sr25519.toL b) v hl (by rw [toL_length]; exact hb)

theorem newSigningContext_ok (ctx : Bytes) (h : ctx.size ≤ maxUint32) :
    ∃ sc, newSigningContext ctx = .ok sc ∧ Valid sc.s := by
  obtain ⟨t0, e0, v0⟩ := newTranscript_ok (lb "SigningContext") (by decide)
  obtain ⟨t1, e1, v1⟩ := appendMessage_ok t0 [] (Sr25519.toL ctx) v0 (by decide) (by rw [toL_length]; exact h)
  exact ⟨t1, by rw [newSigningContext, e0]; exact e1, v1⟩

theorem newTranscriptBytes_ok (sc : Transcript) (msg : Bytes) (v : Valid sc.s) (h : msg.size ≤ maxUint32) :
    ∃ t, newTranscriptBytes sc msg = .ok t ∧ Valid t.s := by
  obtain ⟨t1, e1, v1⟩ := commitBytes_ok sc.clone "sign-bytes" msg v (by decide) h
  exact ⟨t1, by rw [newTranscriptBytes, show appendMessage _ _ _ = _ from e1]; rfl, v1⟩

theorem deriveVerifyChallengeScalar_ok (pk : PublicKey) (t : Transcript) (sig : Signature) (v : Valid t.s)
    (hp : pk.compressed.size ≤ maxUint32) (hr : sig.r.size ≤ maxUint32) :
    ∃ k, deriveVerifyChallengeScalar pk t sig = .ok k := by
  obtain ⟨t1, e1, v1⟩ := commitBytes_ok t.clone "proto-name" protoLabel v (by decide) (by decide)
  obtain ⟨t2, e2, v2⟩ := commitBytes_ok t1 "sign:pk" pk.compressed v1 (by decide) hp
  obtain ⟨t3, e3, v3⟩ := commitBytes_ok t2 "sign:R" sig.r v2 (by decide) hr
  obtain ⟨t4, out, e4, _, _⟩ := extractBytes_ok t3 (lb "sign:c") 64 v3 (by decide) (by decide)
  refine ⟨scalarFromWide out, ?_⟩
  simp only [deriveVerifyChallengeScalar, signingPrefix, challengeScalar, bind, Except.bind, e1, e2, e3, e4]
  rfl

theorem verify_ok (pk : PublicKey) (t : Transcript) (sig : Signature) (v : Valid t.s)
    (hp : pk.compressed.size ≤ maxUint32) (hr : sig.r.size ≤ maxUint32) :
    ∃ b, Sr25519.verify pk t sig = .ok b := by
  obtain ⟨k, e⟩ := deriveVerifyChallengeScalar_ok pk t sig v hp hr
  unfold Sr25519.verify
  split
  · exact ⟨_, rfl⟩
  · exact ⟨_, by simp only [bind, Except.bind, e]; rfl⟩

theorem pk_unmarshal_compressed {pk : Bytes} {k : PublicKey} (h : (PublicKey.unmarshalInto none pk).1 = some k) :
    k.compressed = pk ∧ pk.size = 32 := by
  unfold PublicKey.unmarshalInto decodePublicKey at h
  by_cases hl : pk.size = 32
  · cases hd : Ristretto.decode pk with
    | none => simp [hl, hd] at h
    | some A => simp [hl, hd] at h; subst h; exact ⟨rfl, hl⟩
  · simp [hl] at h

theorem sig_unmarshal_r {sig : Bytes} {s : Signature} (h : (Signature.unmarshalInto none sig).1 = some s) :
    s.r.size ≤ 32 ∧ sig.size = 64 := by
  unfold Signature.unmarshalInto decodeSignature at h
  by_cases hl : sig.size = 64
  · by_cases hm : (sig.get! 63).toNat < 128
    · simp [hl, hm] at h
    · by_cases hs : leNat (bslice sig 32 32) % 2^255 ≥ L
      · simp [hl, hm, hs] at h
      · simp [hl, hm, hs] at h
        subst h
        exact ⟨by simp [bslice, ByteArray.size_extract]; omega, hl⟩
  · simp [hl] at h

/-- whatever `UnmarshalBinary` left in the two receivers, `Verify` runs on a valid transcript; a receiver left at its
zero value makes the answer `false` -/
theorem srVerify_spec (ctx msg pk sig : Bytes) (hc : ctx.size ≤ maxUint32) (hm : msg.size ≤ maxUint32) :
    ∃ b, srVerify ctx msg pk sig = .boolean b ∧ (pk.size ≠ 32 ∨ sig.size ≠ 64 → b = false) := by
  obtain ⟨sc, e0, v0⟩ := newSigningContext_ok ctx hc
  obtain ⟨t, e1, v1⟩ := newTranscriptBytes_ok sc msg v0 hm
  rw [show srVerify = _ from by delta srVerify; rfl]  -- as in `mSeq_spec`
  simp only [e0, e1]
  cases hk : (PublicKey.unmarshalInto none pk).1 with
  | none => exact ⟨false, rfl, fun _ => rfl⟩
  | some k =>
    cases hs : (Signature.unmarshalInto none sig).1 with
    | none => exact ⟨false, rfl, fun _ => rfl⟩
    | some s =>
      obtain ⟨hk1, hk2⟩ := pk_unmarshal_compressed hk
      obtain ⟨hs1, hs2⟩ := sig_unmarshal_r hs
      obtain ⟨b, eb⟩ := verify_ok k t s v1 (by rw [hk1, hk2]; decide) (Nat.le_trans hs1 (by decide))
      exact ⟨b, by simp only [verifyRecv, eb], fun h => absurd h (by omega)⟩

end

open Voi.Spec.Merlin Voi.Props.StrobeInv in
/-- C19 for sr25519 verification: with context and message below Merlin's 4 GiB limit, key and signature bytes of any
length get a verdict -/
theorem srVerify_total (ctx msg pk sig : Bytes) (hc : ctx.size ≤ maxUint32) (hm : msg.size ≤ maxUint32) :
    ∃ b, srVerify ctx msg pk sig = .boolean b := by
  obtain ⟨b, e, _⟩ := srVerify_spec ctx msg pk sig hc hm
  exact ⟨b, e⟩

open Voi.Spec.Merlin Voi.Props.StrobeInv in
theorem srVerify_bad_len (ctx msg pk sig : Bytes) (hc : ctx.size ≤ maxUint32) (hm : msg.size ≤ maxUint32)
    (h : pk.size ≠ 32 ∨ sig.size ≠ 64) : srVerify ctx msg pk sig = .boolean false := by
  obtain ⟨b, e, hb⟩ := srVerify_spec ctx msg pk sig hc hm
  rw [e, hb h]

end Sr

#print axioms recvDecode_len
#print axioms recvDecode_err
#print axioms recvDecode_cases
#print axioms recvDecode_ok
#print axioms recvDecode_no_panic
#print axioms newDecode_len
#print axioms newDecode_cases
#print axioms newDecode_err
#print axioms newDecode_no_panic
#print axioms ofOption_no_panic
#print axioms ofOption_err
#print axioms ceySetBytes_len
#print axioms ceySetBytes_err
#print axioms ceySetBytes_iff
#print axioms ceyUnmarshal_len
#print axioms ceyUnmarshal_err
#print axioms ceyUnmarshal_ok
#print axioms ceyNew_len
#print axioms epUnmarshal_len
#print axioms epUnmarshal_err
#print axioms epSetCompressed_len
#print axioms epSetCompressed_err
#print axioms epSetMontgomery_len
#print axioms epSetMontgomery_err
#print axioms epSetMontgomery_sign
#print axioms crSetBytes_len
#print axioms crSetBytes_err
#print axioms crUnmarshal_len
#print axioms crUnmarshal_err
#print axioms rpUnmarshal_len
#print axioms rpUnmarshal_err
#print axioms rpSetCompressed_len
#print axioms rpSetCompressed_err
#print axioms rpSetUniform_len
#print axioms rpSetUniform_err
#print axioms rpSetUniform_iff
#print axioms mpSetBytes_len
#print axioms mpSetBytes_err
#print axioms mpSetBytes_iff
#print axioms scSetModOrder_len
#print axioms scSetModOrder_err
#print axioms scSetModOrder_iff
#print axioms scSetWide_len
#print axioms scSetWide_err
#print axioms scSetWide_iff
#print axioms scSetCanonical_len
#print axioms scSetCanonical_err
#print axioms scSetCanonical_iff
#print axioms scSetBits_len
#print axioms scSetBits_err
#print axioms scSetBits_iff
#print axioms scUnmarshal_len
#print axioms scUnmarshal_err
#print axioms scNewModOrder_len
#print axioms scNewWide_len
#print axioms scNewCanonical_len
#print axioms scNewBits_len
#print axioms scMinimal_len
#print axioms scToBytes_len
#print axioms scToBytes_ok
#print axioms scNaf_panic
#print axioms scRadix2w_panic
#print axioms scRadixHint_panic
#print axioms msmEd_panic
#print axioms msmEdx_panic
#print axioms msmRist_panic
#print axioms msmRistx_panic
#print axioms edMode_default
#print axioms edVerifyWithOptions_panic
#print axioms edVerify_panic
#print axioms edVerifyWithOptions_total
#print axioms edVerify_sig_len
#print axioms edVerifyExpandedWithOptions_panic
#print axioms edVerifyExpanded_no_panic
#print axioms edBatchEntry_panic
#print axioms edBatchEntry_total
#print axioms verify_pk_len
#print axioms edBatchEntry_pk_len
#print axioms cacheVerifyWithOptions_panic
#print axioms cacheVerifyWithOptions_pk_len
#print axioms cacheVerify_no_panic
#print axioms edNewExpanded_len
#print axioms edNewKey_panic
#print axioms edSign_panic
#print axioms edPkSign_panic
#print axioms edPkSign_err
#print axioms vrfProve_len
#print axioms vrfProve_panic
#print axioms vrfProveRnd_len
#print axioms vrfProveRnd_entropy
#print axioms vrfProveRnd_no_panic
#print axioms vrfVerify_total
#print axioms vrfVerify_pk_len
#print axioms vrfHash_len
#print axioms vrfHash_no_panic
#print axioms normal_not_runtime
#print axioms d4EdPriv_panic
#print axioms d5Public_panic
#print axioms d5Seed_panic
#print axioms xX25519_len
#print axioms xX25519_no_panic
#print axioms xX25519Base_len
#print axioms xEdPub_len
#print axioms h2cXmd_len
#print axioms h2cXof_len
#print axioms h2cXmd_no_panic
#print axioms h2cXof_no_panic
#print axioms h2cRO_no_panic
#print axioms h2cNU_no_panic
#print axioms h2cRist_no_panic
#print axioms h2cXmd_small_hash
#print axioms appendMessage_tooLong
#print axioms extractBytes_tooLong
#print axioms newTranscript_tooLong
#print axioms mSeq_ok
#print axioms mSeq_panic
#print axioms mSeq_no_fault
#print axioms rekey_tooLong
#print axioms mRng_ok
#print axioms mRng_no_fault
#print axioms srSigUnmarshal_len
#print axioms srPkUnmarshal_len
#print axioms srSkUnmarshal_len
#print axioms srKpUnmarshal_len
#print axioms srMskUnmarshal_len
#print axioms srSigUnmarshal_spec
#print axioms srPkUnmarshal_spec
#print axioms srSkUnmarshal_spec
#print axioms srKpUnmarshal_spec
#print axioms srMskUnmarshal_spec
#print axioms srSigUnmarshal_err
#print axioms srPkUnmarshal_err
#print axioms srKpUnmarshal_err
#print axioms srSkUnmarshal_err
#print axioms srMskUnmarshal_err
#print axioms srSigNew_len
#print axioms srPkNew_len
#print axioms srSkNew_len
#print axioms srSkEdNew_len
#print axioms srKpNew_len
#print axioms srMskNew_len
#print axioms toL_length
#print axioms commitBytes_ok
#print axioms newSigningContext_ok
#print axioms newTranscriptBytes_ok
#print axioms deriveVerifyChallengeScalar_ok
#print axioms verify_ok
#print axioms pk_unmarshal_compressed
#print axioms sig_unmarshal_r
#print axioms srVerify_total
#print axioms srVerify_bad_len

end Voi.Props.TotalInv

/-
C16 / C01: the fuel of `Voi.Model.Lattice.fsvRun` suffices (`LatticeInv.run_bound`), restated for `ℕ`, `ℤ` and with
the hypothesis `Finished k` of the results of `LatticeInv` discharged.
-/
import Mathlib.Tactic.NormNum
import Voi.Props.LatticeInv

namespace Voi.Props.LatticeFuel
open Voi.Model.Lattice Voi.Props.LatticeInv

-- `decide` evaluates `2 ^ 512`; the default limit on exponents is 256
set_option exponentiation.threshold 1024

/-- `LatticeInv.bitLen_le` with the powers written in `ℤ` -/
theorem bitLen_le_iff (x : ℤ) (m : ℕ) : bitLen x ≤ m ↔ -(2 : ℤ) ^ m ≤ x ∧ x < (2 : ℤ) ^ m := by
  simpa using bitLen_le (x := x) (m := m)

theorem update_p_decreases {k : ℤ} {st : State} (h : Inv k st) (hle : st.nv ≤ st.nu)
    (hne : ¬ exitNow st = true) : bitLen (update st).p < bitLen st.p := (update_step h hle hne).2

theorem loop_finishes {k : ℤ} (n : ℕ) (st : State) (h : Inv k st) (hn : bitLen st.p < n) :
    (fsvLoop n st).2 = true := (loop_bound n st h hn).1

theorem init_p_bitLen {k : ℕ} (hk : k < 2 ^ 512) : bitLen (init k).p ≤ 765 := LatticeInv.init_p_bitLen hk

theorem finished_of_lt {k : ℕ} (hk : k < 2 ^ 512) : Finished k := LatticeInv.finished_of_lt hk

theorem finished_of_lt_L {k : ℕ} (hk : (k : ℤ) < L) : Finished k := by
  apply finished_of_lt
  have hL : L < ((2 ^ 512 : ℕ) : ℤ) := by decide
  exact_mod_cast lt_trans hk hL

theorem fsv_iters_le {k : ℕ} (hk : k < 2 ^ 512) : (fsvRun k).1.iters ≤ 765 := (run_bound hk).2

/-- C16 for the executable model `fsv`, with no hypothesis on the fuel -/
theorem fsv_statement_proved : fsv_statement := fun k hk =>
  have hf := finished_of_lt (lt_trans hk (by decide))
  ⟨hf, fsv_partial k hk hf⟩

theorem fsv_short' {k : ℕ} (hk : k < 2 ^ 512) :
    (-B127 < (fsv k).1 ∧ (fsv k).1 < B127) ∧ (-B127 < (fsv k).2 ∧ (fsv k).2 < B127) := fsv_short (finished_of_lt hk)

-- the premises of `update_p_decreases` hold at the first loop head of the 161-step run, where `p` does get shorter
example : bitLen (update (narrow (swap (init kEx)))).p < bitLen (narrow (swap (init kEx))).p :=
  update_p_decreases (inv_head (inv_init kEx)) (swap_le _) head_kEx
example : bitLen (narrow (swap (init kEx))).p = 504 ∧ bitLen (update (narrow (swap (init kEx)))).p = 502 := by
  decide +kernel
example : Finished kEx := finished_of_lt (by decide)
example : bitLen (-1) = 0 ∧ (-(2 : ℤ) ^ 0 ≤ -1 ∧ (-1 : ℤ) < 2 ^ 0) := ⟨by decide, by norm_num⟩

end Voi.Props.LatticeFuel

section Axioms
open Voi.Props.LatticeFuel
#print axioms bitLen_le_iff
#print axioms update_p_decreases
#print axioms loop_finishes
#print axioms finished_of_lt
#print axioms fsv_iters_le
#print axioms fsv_statement_proved
end Axioms

/-
Second half of the bridge of `Voi.Props.PredBridgeSc`: the regenerated `IsCanonicalVartime` decision tree equals the
specification's strict canonicity predicate `Spec.Pt.isCanonicalEnc` on every 32-byte string.
-/
import Voi.Props.PredBridgeSc
import Voi.Props.L0.Pred_IsCanonicalVartime
import Voi.Props.C10
namespace Voi.Props.PredBridge
open Voi Voi.Spec Voi.Props.Bytes Voi.Gen.Pred

/-- the bytes of `noncanonicalSignBits[0]` spell y = 1 with the sign bit set -/
theorem y1Sign_bytes_iff (b : Bytes) (hs : b.size = 32) :
    (byte b 0 = 1 ∧ byte b 1 = 0 ∧ byte b 2 = 0 ∧ byte b 3 = 0 ∧ byte b 4 = 0 ∧ byte b 5 = 0 ∧ byte b 6 = 0 ∧ byte b 7 = 0 ∧ byte b 8 = 0 ∧ byte b 9 = 0 ∧ byte b 10 = 0 ∧ byte b 11 = 0 ∧ byte b 12 = 0 ∧ byte b 13 = 0 ∧ byte b 14 = 0 ∧ byte b 15 = 0 ∧ byte b 16 = 0 ∧ byte b 17 = 0 ∧ byte b 18 = 0 ∧ byte b 19 = 0 ∧ byte b 20 = 0 ∧ byte b 21 = 0 ∧ byte b 22 = 0 ∧ byte b 23 = 0 ∧ byte b 24 = 0 ∧ byte b 25 = 0 ∧ byte b 26 = 0 ∧ byte b 27 = 0 ∧ byte b 28 = 0 ∧ byte b 29 = 0 ∧ byte b 30 = 0 ∧ byte b 31 = 128) ↔ leNat b = 2^255 + 1 := by
  constructor
  · intro h
    rw [← leNat_sum32 b hs]
    simp only [h]
    decide
  · intro h
    simp only [byte_eq, h]
    decide

/-- the bytes of `noncanonicalSignBits[1]` spell y = p − 1 with the sign bit set -/
theorem ym1Sign_bytes_iff (b : Bytes) (hs : b.size = 32) :
    (byte b 0 = 236 ∧ byte b 1 = 255 ∧ byte b 2 = 255 ∧ byte b 3 = 255 ∧ byte b 4 = 255 ∧ byte b 5 = 255 ∧ byte b 6 = 255 ∧ byte b 7 = 255 ∧ byte b 8 = 255 ∧ byte b 9 = 255 ∧ byte b 10 = 255 ∧ byte b 11 = 255 ∧ byte b 12 = 255 ∧ byte b 13 = 255 ∧ byte b 14 = 255 ∧ byte b 15 = 255 ∧ byte b 16 = 255 ∧ byte b 17 = 255 ∧ byte b 18 = 255 ∧ byte b 19 = 255 ∧ byte b 20 = 255 ∧ byte b 21 = 255 ∧ byte b 22 = 255 ∧ byte b 23 = 255 ∧ byte b 24 = 255 ∧ byte b 25 = 255 ∧ byte b 26 = 255 ∧ byte b 27 = 255 ∧ byte b 28 = 255 ∧ byte b 29 = 255 ∧ byte b 30 = 255 ∧ byte b 31 = 255) ↔ leNat b = 2^255 + (2^255 - 19 - 1) := by
  constructor
  · intro h
    rw [← leNat_sum32 b hs]
    simp only [h]
    decide
  · intro h
    simp only [byte_eq, h]
    decide

-- for the `Decidable` instance of the 32-fold conjunctions
set_option synthInstance.maxSize 100000 in
/-- C10: `IsCanonicalVartime` as regenerated (incl. the two `noncanonicalSignBits` strings produced by the real initialiser)
decides the specification's strict canonicity predicate -/
theorem isCanonical_tree_eq_spec (b : Bytes) (hs : b.size = 32) :
    IsCanonicalVartime_sh (byte b 0) (byte b 1) (byte b 2) (byte b 3) (byte b 4) (byte b 5) (byte b 6) (byte b 7) (byte b 8) (byte b 9) (byte b 10) (byte b 11) (byte b 12) (byte b 13) (byte b 14) (byte b 15) (byte b 16) (byte b 17) (byte b 18) (byte b 19) (byte b 20) (byte b 21) (byte b 22) (byte b 23) (byte b 24) (byte b 25) (byte b 26) (byte b 27) (byte b 28) (byte b 29) (byte b 30) (byte b 31) = [if Pt.isCanonicalEnc b = true then 1 else 0] := by
  rw [Voi.Props.L0.Pred_IsCanonicalVartime _ _ _ _ _ _ _ _ _ _ _ _ _ _ _ _ _ _ _ _ _ _ _ _ _ _ _ _ _ _ _ _ (byte_lt b 0) (byte_lt b 1) (byte_lt b 2) (byte_lt b 3) (byte_lt b 4) (byte_lt b 5) (byte_lt b 6) (byte_lt b 7) (byte_lt b 8) (byte_lt b 9) (byte_lt b 10) (byte_lt b 11) (byte_lt b 12) (byte_lt b 13) (byte_lt b 14) (byte_lt b 15) (byte_lt b 16) (byte_lt b 17) (byte_lt b 18) (byte_lt b 19) (byte_lt b 20) (byte_lt b 21) (byte_lt b 22) (byte_lt b 23) (byte_lt b 24) (byte_lt b 25) (byte_lt b 26) (byte_lt b 27) (byte_lt b 28) (byte_lt b 29) (byte_lt b 30) (byte_lt b 31)]
  refine congrArg (fun n => [n]) (if_congr ?_ rfl rfl)
  rw [yField_sum32 b hs, y1Sign_bytes_iff b hs, ym1Sign_bytes_iff b hs]
  have h := Voi.Props.C10.isCanonicalEnc_iff_nat b hs
  unfold Voi.Props.C10.yField at h
  rw [Voi.Props.C10.p_eq] at h
  exact h.symm

example : Pt.isCanonicalEnc (natLE 5 32) = true ∧ Pt.isCanonicalEnc (natLE (2^255 - 19) 32) = false
    ∧ Pt.isCanonicalEnc (natLE (2^255 + 1) 32) = false := by decide +kernel

end Voi.Props.PredBridge

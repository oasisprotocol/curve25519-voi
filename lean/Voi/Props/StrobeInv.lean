import Voi.Spec.Merlin
import Voi.Props.C14.HashWF  -- the size lemmas of Keccak-f (`keccakF1600_size`, `bytesOfLanes_size`) live there
/-!
Property C13: the STROBE model (`Voi.Model.Strobe`) under every operation history.

`Inv` is established by `new` and kept by every operation, for data of any length; under it no access to `st` is out of
range (the model turns such an access into `Err.oob`; `oob_is_live` shows the check is not vacuous) and `operate` fails with
the two explicit Go panics and in no other way.  Chunking (`operate_append` and its corollaries) holds for every state, so
what it needs (`*_same`) is proved without the invariant.  Then clone independence in a heap-of-objects view of the API,
and the Merlin operations on valid transcripts.
-/
namespace Voi.Props.StrobeInv
open Voi Voi.Spec Voi.Model.Strobe

theorem permute_size (st : Array UInt8) : (permute st).size = 200 := by
  rw [permute, ByteArray.size_data, keccakF1600Bytes, C14.bytesOfLanes_size, C14.keccakF1600_size]

/-- the relation the Go code maintains between calls -/
structure Inv (s : Strobe) : Prop where
  size : s.st.size = 200
  rate : s.r + 1 < 200
  pos : s.pos < s.r
  posBegin : s.posBegin ≤ s.pos + 1  -- no index depends on it: kept for `posBegin_lt_256` alone

/-- fields that only `New` and `operate` write -/
def Same (s s' : Strobe) : Prop :=
  s'.r = s.r ∧ s'.initialized = s.initialized ∧ s'.curFlags = s.curFlags

theorem Same.trans {a b c : Strobe} (h1 : Same a b) (h2 : Same b c) : Same a c :=
  ⟨h2.1.trans h1.1, h2.2.1.trans h1.2.1, h2.2.2.trans h1.2.2⟩

/-- `byte(s.posBegin)` is a lossless conversion -/
theorem posBegin_lt_256 {s : Strobe} (h : Inv s) : s.posBegin < 256 := by
  have := h.rate; have := h.pos; have := h.posBegin; omega

/-- `pos`, `pos + 1` and `r + 1` are the indices `runF` touches; the loop body of `duplex` touches `pos` -/
theorem access_in_range {s : Strobe} (hsz : s.st.size = 200) (hr : s.r + 1 < 200) (hp : s.pos ≤ s.r) :
    s.pos < s.st.size ∧ s.pos + 1 < s.st.size ∧ s.r + 1 < s.st.size := by
  omega

theorem xorAt_ok {st : Array UInt8} {i : Nat} (b : UInt8) (h : i < st.size) :
    xorAt st i b = .ok (st.set i (st[i] ^^^ b)) := dif_pos h

theorem xorAt_oob (st : Array UInt8) (i : Nat) (b : UInt8) (h : ¬ i < st.size) : xorAt st i b = .error .oob :=
  dif_neg h

theorem runF_same {s s' : Strobe} (h : runF s = .ok s') : Same s s' := by
  unfold runF at h
  split at h
  · split at h
    · cases h
    · split at h
      · cases h
      · split at h
        · cases h
        · obtain rfl := Except.ok.inj h; exact ⟨rfl, rfl, rfl⟩
  · obtain rfl := Except.ok.inj h; exact ⟨rfl, rfl, rfl⟩

theorem duplexByte_same {s s' : Strobe} {c : Bool} {d o : UInt8} (h : duplexByte s c d = .ok (s', o)) : Same s s' := by
  unfold duplexByte at h
  split at h
  · simp only at h
    split at h
    · split at h
      · cases h
      · rename_i s2 e2
        cases h
        exact (runF_same e2 :)
    · cases h; exact ⟨rfl, rfl, rfl⟩
  · cases h

theorem duplexLoop_same {data : List UInt8} {s s' : Strobe} {c : Bool} {out : List UInt8}
    (h : duplexLoop s c data = .ok (s', out)) : Same s s' := by
  induction data generalizing s out with
  | nil => cases h; exact ⟨rfl, rfl, rfl⟩
  | cons d ds ih =>
    simp only [duplexLoop] at h
    split at h
    · cases h
    · rename_i s1 o e1
      split at h
      · cases h
      · rename_i s2 os e2
        cases h
        exact (duplexByte_same e1).trans (ih e2)

theorem duplex_same {s s' : Strobe} {data out : List UInt8} {c forceF : Bool}
    (h : duplex s data c forceF = .ok (s', out)) : Same s s' := by
  unfold duplex at h
  split at h
  · cases h
  · rename_i s1 o1 e1
    have h1 := duplexLoop_same e1
    split at h
    · split at h
      · cases h
      · rename_i s2 e2
        cases h
        exact h1.trans (runF_same e2)
    · cases h; exact h1

theorem beginOp_same {s s' : Strobe} {f : Flags} (h : beginOp s f = .ok s') : Same s s' := by
  unfold beginOp at h
  simp only at h
  split at h
  · cases h
  · rename_i s2 o e2
    cases h
    exact (duplex_same e2 :)

/-- `hp` in place of `Inv s`: `runF` is entered with `pos = r` from the loop, with `pos < r` from `forceF` -/
theorem runF_ok (s : Strobe) (hsz : s.st.size = 200) (hr : s.r + 1 < 200) (hp : s.pos ≤ s.r) (h0 : 0 < s.r) :
    ∃ s', runF s = .ok s' ∧ Inv s' ∧ s'.pos = 0 := by
  obtain ⟨h1, h2, h3⟩ := access_in_range hsz hr hp
  -- `rw`, not the bare term: unifying `permute st` with the field of the new state unfolds Keccak
  have post (st : Array UInt8) : Inv { s with st := permute st, pos := 0, posBegin := 0 } :=
    ⟨by rw [permute_size], hr, h0, Nat.zero_le _⟩
  unfold runF
  split
  · simp only [xorAt_ok, Array.size_set, h1, h2, h3]
    exact ⟨_, rfl, post _, rfl⟩
  · exact ⟨_, rfl, post _, rfl⟩

theorem duplexByte_ok (s : Strobe) (c : Bool) (d : UInt8) (h : Inv s) :
    ∃ s' o, duplexByte s c d = .ok (s', o) ∧ Inv s' := by
  obtain ⟨hsz, hr, hp, hb⟩ := h
  unfold duplexByte
  rw [dif_pos (access_in_range hsz hr (Nat.le_of_lt hp)).1]
  extract_lets d' s1
  have hsz1 : s1.st.size = 200 := by simp [s1, hsz]
  split
  · rename_i he
    obtain ⟨s2, e2, i2, _⟩ := runF_ok s1 hsz1 hr (Nat.le_of_eq he) (Nat.zero_lt_of_lt hp)
    rw [e2]
    exact ⟨_, _, rfl, i2⟩
  · rename_i he
    exact ⟨_, _, rfl, hsz1, hr, Nat.lt_of_le_of_ne hp he, Nat.le_succ_of_le hb⟩

theorem duplexLoop_ok (s : Strobe) (c : Bool) (data : List UInt8) (h : Inv s) :
    ∃ s' out, duplexLoop s c data = .ok (s', out) ∧ Inv s' ∧ out.length = data.length := by
  induction data generalizing s with
  | nil => exact ⟨s, [], rfl, h, rfl⟩
  | cons d ds ih =>
    obtain ⟨s1, o, e1, i1⟩ := duplexByte_ok s c d h
    obtain ⟨s2, os, e2, i2, l2⟩ := ih s1 i1
    exact ⟨s2, o :: os, by simp only [duplexLoop, e1, e2], i2, by simp [l2]⟩

theorem duplex_ok (s : Strobe) (data : List UInt8) (c forceF : Bool) (h : Inv s) :
    ∃ s' out, duplex s data c forceF = .ok (s', out) ∧ Inv s' ∧ out.length = data.length ∧
      (forceF = true → s'.pos = 0) := by
  obtain ⟨s1, out, e1, i1, l1⟩ := duplexLoop_ok s c data h
  unfold duplex
  simp only [e1]
  split
  · obtain ⟨s2, e2, i2, p2⟩ := runF_ok s1 i1.size i1.rate (Nat.le_of_lt i1.pos) (Nat.zero_lt_of_lt i1.pos)
    rw [e2]
    exact ⟨s2, out, rfl, i2, l1, fun _ => p2⟩
  · rename_i hf
    exact ⟨s1, out, rfl, i1, l1, fun hft => by simpa [hft] using hf⟩

theorem beginOp_ok (s : Strobe) (f : Flags) (h : Inv s) :
    ∃ s', beginOp s f = .ok s' ∧ Inv s' ∧ ((f &&& flagC != 0) = true → s'.pos = 0) := by
  have i1 : Inv { s with posBegin := s.pos + 1 } := ⟨h.size, h.rate, h.pos, Nat.le_refl _⟩
  obtain ⟨s2, out, e2, i2, _, p2⟩ := duplex_ok _ [UInt8.ofNat s.posBegin, f] false (f &&& flagC != 0) i1
  unfold beginOp
  simp only [e2]
  exact ⟨s2, rfl, i2, p2⟩

theorem duplex_noforce (s : Strobe) (data : List UInt8) (c : Bool) : duplex s data c false = duplexLoop s c data := by
  unfold duplex
  cases duplexLoop s c data <;> rfl

def operatePre (s : Strobe) (f : Flags) (more : Bool) : Except Err Strobe :=
  if !s.initialized then .error .uninit else
  if more then
    if f != s.curFlags then .error .flagMismatch else .ok s
  else
    match beginOp s f with
    | .error e => .error e
    | .ok s1 => .ok { s1 with curFlags := f }

theorem operate_eq (s : Strobe) (f : Flags) (data : List UInt8) (more : Bool) :
    operate s f data more =
      match operatePre s f more with
      | .error e => .error e
      | .ok s1 => duplexLoop s1 (f &&& flagC != 0) data := by
  unfold operate operatePre
  split
  · rfl
  · simp only [duplex_noforce]
    cases more with
    | true => cases f != s.curFlags <;> rfl
    | false => simp only [Bool.false_eq_true, if_false]; cases beginOp s f <;> rfl

theorem operatePre_post {s s1 : Strobe} {f : Flags} {more : Bool} (h : operatePre s f more = .ok s1) :
    s1.r = s.r ∧ s1.initialized = true ∧ s1.curFlags = f := by
  unfold operatePre at h
  split at h
  · cases h
  · rename_i hi
    split at h
    · split at h
      · cases h
      · rename_i hf
        cases h
        exact ⟨rfl, by simpa using hi, (by simpa using hf : f = s.curFlags).symm⟩
    · split at h
      · cases h
      · rename_i s2 e
        cases h
        exact ⟨(beginOp_same e).1, (beginOp_same e).2.1.trans (by simpa using hi), rfl⟩

theorem operatePre_ok (s : Strobe) (f : Flags) (more : Bool) (h : Inv s) (hi : s.initialized = true)
    (hm : more = true → f = s.curFlags) : ∃ s1, operatePre s f more = .ok s1 ∧ Inv s1 := by
  unfold operatePre
  cases more with
  | true => exact ⟨s, by simp [hi, hm rfl], h⟩
  | false =>
    obtain ⟨s1, e1, i1, _⟩ := beginOp_ok s f h
    exact ⟨{ s1 with curFlags := f }, by simp [hi, e1], i1.size, i1.rate, i1.pos, i1.posBegin⟩

theorem operate_uninit (s : Strobe) (f : Flags) (data : List UInt8) (more : Bool) (h : s.initialized = false) :
    operate s f data more = .error .uninit := by
  unfold operate; simp [h]

theorem operate_mismatch (s : Strobe) (f : Flags) (data : List UInt8) (hi : s.initialized = true)
    (hf : f ≠ s.curFlags) : operate s f data true = .error .flagMismatch := by
  unfold operate; simp [hi, hf]

theorem operate_ok (s : Strobe) (f : Flags) (data : List UInt8) (more : Bool) (h : Inv s)
    (hi : s.initialized = true) (hm : more = true → f = s.curFlags) :
    ∃ s' out, operate s f data more = .ok (s', out) ∧ Inv s' ∧ out.length = data.length ∧
      s'.r = s.r ∧ s'.initialized = true ∧ s'.curFlags = f := by
  obtain ⟨s1, e1, i1⟩ := operatePre_ok s f more h hi hm
  obtain ⟨r1, in1, f1⟩ := operatePre_post e1
  obtain ⟨s2, out, e2, i2, l2⟩ := duplexLoop_ok s1 (f &&& flagC != 0) data i1
  obtain ⟨r2, in2, f2⟩ := duplexLoop_same e2
  exact ⟨s2, out, by rw [operate_eq, e1]; exact e2, i2, l2, r2.trans r1, in2.trans in1, f2.trans f1⟩

theorem operate_cases (s : Strobe) (f : Flags) (data : List UInt8) (more : Bool) :
    operate s f data more = .error .uninit ∨ operate s f data more = .error .flagMismatch ∨
    (s.initialized = true ∧ (more = true → f = s.curFlags)) := by
  cases hi : s.initialized with
  | false => exact .inl (operate_uninit s f data more hi)
  | true =>
    by_cases hm : more = true → f = s.curFlags
    · exact .inr (.inr ⟨rfl, hm⟩)
    · simp only [Classical.not_imp] at hm
      obtain ⟨rfl, hf⟩ := hm
      exact .inr (.inl (operate_mismatch s f data hi hf))

theorem operate_no_oob (s : Strobe) (f : Flags) (data : List UInt8) (more : Bool) (h : Inv s) :
    operate s f data more ≠ .error .oob := by
  rcases operate_cases s f data more with e | e | ⟨hi, hm⟩
  · rw [e]; nofun
  · rw [e]; nofun
  · obtain ⟨_, _, e, _⟩ := operate_ok s f data more h hi hm
    rw [e]; nofun

theorem operate_inv {s s' : Strobe} {f : Flags} {data out : List UInt8} {more : Bool} (h : Inv s)
    (e : operate s f data more = .ok (s', out)) :
    Inv s' ∧ out.length = data.length ∧ s'.r = s.r ∧ s'.initialized = true ∧ s'.curFlags = f := by
  rcases operate_cases s f data more with e' | e' | ⟨hi, hm⟩
  · rw [e'] at e; cases e
  · rw [e'] at e; cases e
  · obtain ⟨_, _, e', r⟩ := operate_ok s f data more h hi hm
    rw [e'] at e; cases e
    exact r

theorem new_ok (proto : List UInt8) :
    ∃ s, new proto = .ok s ∧ Inv s ∧ s.r = R ∧ s.initialized = true ∧ s.curFlags = (flagA ||| flagM) := by
  have i0 : Inv { zeroValue with r := constN - constSec / 4 } :=
    ⟨by simp [zeroValue, constN], by decide, by decide, by decide⟩
  obtain ⟨s1, out, e1, i1, _, p1⟩ := duplex_ok _ (domain (constN - constSec / 4)) false true i0
  have hr1 : s1.r = 168 := (duplex_same e1).1
  have hp1 : s1.pos = 0 := p1 rfl
  -- the rate drops by 2 while `pos = 0`
  have i2 : Inv { s1 with r := s1.r - 2, initialized := true } :=
    ⟨i1.size, by show s1.r - 2 + 1 < 200; omega, by show s1.pos < s1.r - 2; omega, i1.posBegin⟩
  obtain ⟨s3, out3, e3, i3, _, r3, in3, f3⟩ := operate_ok _ (flagA ||| flagM) proto false i2 rfl nofun
  refine ⟨s3, ?_, i3, ?_, in3, f3⟩
  · unfold new
    simp only [e1, e3]
    rfl
  · rw [r3]; show s1.r - 2 = R; rw [hr1]; rfl

/-- the operations of the package API (`more` made explicit for all of them) -/
inductive Op where
  | ad (isMeta more : Bool) (data : List UInt8)
  | key (more : Bool) (data : List UInt8)
  | prf (more : Bool) (n : Nat)

def step (s : Strobe) : Op → Except Err (Strobe × List UInt8)
  | .ad false more data => operate s flagA data more
  | .ad true more data => operate s (flagA ||| flagM) data more
  | .key more data => operate s (flagA ||| flagC) data more
  | .prf more n => operate s (flagI ||| flagA ||| flagC) (List.replicate n 0) more

/-- a history as a caller that recovers from panics sees it: a panicking call leaves the state untouched (both Go panics
are raised before the first write) -/
def run (s : Strobe) : List Op → Strobe × List (Except Err (List UInt8))
  | [] => (s, [])
  | op :: ops =>
    match step s op with
    | .ok (s', out) => let (s'', rs) := run s' ops; (s'', .ok out :: rs)
    | .error e => let (s'', rs) := run s ops; (s'', .error e :: rs)

theorem step_eq (s : Strobe) (op : Op) : ∃ f data more, step s op = operate s f data more := by
  cases op with
  | ad isMeta more data => cases isMeta <;> exact ⟨_, _, _, rfl⟩
  | key more data => exact ⟨_, _, _, rfl⟩
  | prf more n => exact ⟨_, _, _, rfl⟩

theorem step_inv {s s' : Strobe} {op : Op} {out : List UInt8} (h : Inv s) (e : step s op = .ok (s', out)) :
    Inv s' ∧ s'.r = s.r := by
  obtain ⟨f, data, more, e'⟩ := step_eq s op
  rw [e'] at e
  exact ⟨(operate_inv h e).1, (operate_inv h e).2.2.1⟩

theorem step_no_oob (s : Strobe) (op : Op) (h : Inv s) : step s op ≠ .error .oob := by
  obtain ⟨f, data, more, e⟩ := step_eq s op
  exact e ▸ operate_no_oob s f data more h

theorem run_spec (ops : List Op) (s : Strobe) (h : Inv s) :
    Inv (run s ops).1 ∧ (run s ops).1.r = s.r ∧ ∀ r ∈ (run s ops).2, r ≠ .error .oob := by
  induction ops generalizing s with
  | nil => exact ⟨h, rfl, nofun⟩
  | cons op ops ih =>
    simp only [run]
    split
    · rename_i s' out e
      obtain ⟨i, hr, no⟩ := ih s' (step_inv h e).1
      exact ⟨i, hr.trans (step_inv h e).2, List.forall_mem_cons.mpr ⟨nofun, no⟩⟩
    · rename_i err e
      obtain ⟨i, hr, no⟩ := ih s h
      exact ⟨i, hr, List.forall_mem_cons.mpr ⟨fun hc => step_no_oob s op h (by cases hc; exact e), no⟩⟩

theorem run_inv (ops : List Op) (s : Strobe) (h : Inv s) : Inv (run s ops).1 ∧ (run s ops).1.r = s.r :=
  ⟨(run_spec ops s h).1, (run_spec ops s h).2.1⟩

theorem run_no_oob (ops : List Op) (s : Strobe) (h : Inv s) : ∀ r ∈ (run s ops).2, r ≠ .error .oob :=
  (run_spec ops s h).2.2

theorem history_from_new (proto : List UInt8) (ops : List Op) :
    ∃ s0, new proto = .ok s0 ∧ Inv (run s0 ops).1 ∧ (run s0 ops).1.r = R ∧
      ∀ r ∈ (run s0 ops).2, r ≠ .error .oob := by
  obtain ⟨s0, e0, i0, r0, _, _⟩ := new_ok proto
  obtain ⟨i, hr, no⟩ := run_spec ops s0 i0
  exact ⟨s0, e0, i, hr.trans r0, no⟩

theorem duplexLoop_append (s : Strobe) (c : Bool) (d1 d2 : List UInt8) :
    duplexLoop s c (d1 ++ d2) =
      match duplexLoop s c d1 with
      | .error e => .error e
      | .ok (s1, o1) =>
        match duplexLoop s1 c d2 with
        | .error e => .error e
        | .ok (s2, o2) => .ok (s2, o1 ++ o2) := by
  induction d1 generalizing s with
  | nil =>
    simp only [List.nil_append, duplexLoop]
    cases duplexLoop s c d2 <;> rfl
  | cons d ds ih =>
    simp only [List.cons_append, duplexLoop]
    cases duplexByte s c d with
    | error e => rfl
    | ok p =>
      obtain ⟨s1, o⟩ := p
      simp only
      rw [ih s1]
      cases duplexLoop s1 c ds with
      | error e => rfl
      | ok q =>
        obtain ⟨s2, os⟩ := q
        simp only
        cases duplexLoop s2 c d2 <;> rfl

theorem operate_more (s : Strobe) (f : Flags) (data : List UInt8) (hi : s.initialized = true) (hf : s.curFlags = f) :
    operate s f data true = duplexLoop s (f &&& flagC != 0) data := by
  rw [operate_eq]
  simp [operatePre, hi, hf]

/-- the second components are the (possibly overwritten) data buffers -/
theorem operate_append (s : Strobe) (f : Flags) (d1 d2 : List UInt8) (more : Bool) :
    operate s f (d1 ++ d2) more =
      match operate s f d1 more with
      | .error e => .error e
      | .ok (s1, o1) =>
        match operate s1 f d2 true with
        | .error e => .error e
        | .ok (s2, o2) => .ok (s2, o1 ++ o2) := by
  rw [operate_eq, operate_eq]
  cases hp : operatePre s f more with
  | error e => rfl
  | ok s0 =>
    obtain ⟨_, hi, hf⟩ := operatePre_post hp
    simp only
    rw [duplexLoop_append]
    cases e1 : duplexLoop s0 (f &&& flagC != 0) d1 with
    | error e => rfl
    | ok p =>
      obtain ⟨s1, o1⟩ := p
      have sm := duplexLoop_same e1
      simp only
      rw [operate_more s1 f d2 (sm.2.1.trans hi) (sm.2.2.trans hf)]

/-- the state alone is what `AD`, `MetaAD` and `KEY` return -/
theorem operate_append_fst (s : Strobe) (f : Flags) (d1 d2 : List UInt8) (more : Bool) :
    (operate s f (d1 ++ d2) more).map (·.1) =
      match (operate s f d1 more).map (·.1) with
      | .error e => .error e
      | .ok s1 => (operate s1 f d2 true).map (·.1) := by
  rw [operate_append]
  cases operate s f d1 more with
  | error e => rfl
  | ok p =>
    obtain ⟨s1, o1⟩ := p
    simp only [Except.map]
    cases operate s1 f d2 true <;> rfl

theorem AD_append (s : Strobe) (d1 d2 : List UInt8) (more : Bool) :
    AD s (d1 ++ d2) more = (match AD s d1 more with | .error e => .error e | .ok s1 => AD s1 d2 true) :=
  operate_append_fst s _ d1 d2 more

theorem MetaAD_append (s : Strobe) (d1 d2 : List UInt8) (more : Bool) :
    MetaAD s (d1 ++ d2) more = (match MetaAD s d1 more with | .error e => .error e | .ok s1 => MetaAD s1 d2 true) :=
  operate_append_fst s _ d1 d2 more

theorem KEYm_append (s : Strobe) (d1 d2 : List UInt8) (more : Bool) :
    KEYm s (d1 ++ d2) more = (match KEYm s d1 more with | .error e => .error e | .ok s1 => KEYm s1 d2 true) :=
  operate_append_fst s _ d1 d2 more

theorem PRFm_add (s : Strobe) (n1 n2 : Nat) (more : Bool) :
    PRFm s (n1 + n2) more =
      match PRFm s n1 more with
      | .error e => .error e
      | .ok (s1, o1) =>
        match PRFm s1 n2 true with
        | .error e => .error e
        | .ok (s2, o2) => .ok (s2, o1 ++ o2) := by
  unfold PRFm
  rw [← List.replicate_append_replicate, operate_append]

def operateChunks (s : Strobe) (f : Flags) (acc : List UInt8) : List (List UInt8) → Except Err (Strobe × List UInt8)
  | [] => .ok (s, acc)
  | c :: cs =>
    match operate s f c true with
    | .error e => .error e
    | .ok (s1, o1) => operateChunks s1 f (acc ++ o1) cs

theorem operate_chunks (f : Flags) (cs : List (List UInt8)) : ∀ (s : Strobe) (d0 : List UInt8) (more : Bool),
    operate s f (d0 ++ cs.flatten) more =
      match operate s f d0 more with
      | .error e => .error e
      | .ok (s1, o1) => operateChunks s1 f o1 cs := by
  induction cs with
  | nil =>
    intro s d0 more
    simp only [List.flatten_nil, List.append_nil, operateChunks]
    cases operate s f d0 more with
    | error e => rfl
    | ok p => rfl
  | cons c cs ih =>
    intro s d0 more
    -- the first chunk joins the data already absorbed: the induction hypothesis at `d0 ++ c`
    rw [List.flatten_cons, ← List.append_assoc, ih s (d0 ++ c) more, operate_append]
    cases operate s f d0 more with
    | error e => rfl
    | ok p =>
      obtain ⟨s1, o1⟩ := p
      simp only [operateChunks]
      cases operate s1 f c true with
      | error e => rfl
      | ok q => rfl

abbrev Heap := Nat → Option Strobe

def Heap.set (h : Heap) (i : Nat) (s : Strobe) : Heap := fun k => if k = i then some s else h k

/-- `h[j] = h[i].Clone()` -/
def Heap.clone (h : Heap) (i j : Nat) : Heap :=
  match h i with
  | some s => h.set j s.clone
  | none => h

def Heap.apply (h : Heap) (i : Nat) (op : Op) : Heap :=
  match h i with
  | none => h
  | some s =>
    match step s op with
    | .ok (s', _) => h.set i s'
    | .error _ => h

def Heap.applyAll (h : Heap) (i : Nat) (ops : List Op) : Heap := ops.foldl (fun h op => h.apply i op) h

theorem Heap.set_other (h : Heap) {i k : Nat} (s : Strobe) (hk : k ≠ i) : (h.set i s) k = h k := if_neg hk

theorem Heap.apply_other (h : Heap) (i k : Nat) (op : Op) (hk : k ≠ i) : (h.apply i op) k = h k := by
  unfold Heap.apply
  cases h i with
  | none => rfl
  | some s =>
    simp only
    cases step s op with
    | error e => rfl
    | ok p => exact h.set_other _ hk

theorem Heap.applyAll_other (ops : List Op) (h : Heap) (i k : Nat) (hk : k ≠ i) : (h.applyAll i ops) k = h k := by
  induction ops generalizing h with
  | nil => rfl
  | cons op ops ih => exact (ih (h.apply i op)).trans (h.apply_other i k op hk)

theorem clone_independent (h : Heap) (i j : Nat) (ops : List Op) (hij : i ≠ j) :
    ((h.clone i j).applyAll j ops) i = h i := by
  rw [Heap.applyAll_other ops _ j i hij]
  unfold Heap.clone
  cases hh : h i with
  | none => exact hh
  | some s => exact (h.set_other _ hij).trans hh

theorem origin_independent (h : Heap) (i j : Nat) (ops : List Op) (hij : i ≠ j) (s : Strobe) (hs : h i = some s) :
    ((h.clone i j).applyAll i ops) j = some s := by
  rw [Heap.applyAll_other ops _ i j hij.symm, Heap.clone, hs]
  exact if_pos rfl

/-- `rfl`: `Clone` is a value copy, and the value is the whole state -/
theorem clone_same_step (s : Strobe) (op : Op) : step s.clone op = step s op := rfl

open Voi.Spec.Merlin

/-- a STROBE state as `New` and every later operation leave it -/
structure Valid (s : Strobe) : Prop where
  inv : Inv s
  init : s.initialized = true

theorem operate_valid (s : Strobe) (f : Flags) (data : List UInt8) (h : Valid s) :
    ∃ s' out, operate s f data false = .ok (s', out) ∧ Valid s' ∧ out.length = data.length ∧ s'.curFlags = f := by
  obtain ⟨s', out, e, i, l, _, hi, hf⟩ := operate_ok s f data false h.inv h.init (fun hc => by cases hc)
  exact ⟨s', out, e, ⟨i, hi⟩, l, hf⟩

theorem MetaAD_ok (s : Strobe) (data : List UInt8) (h : Valid s) :
    ∃ s', MetaAD s data false = .ok s' ∧ Valid s' ∧ s'.curFlags = (flagA ||| flagM) := by
  obtain ⟨s', out, e, v, _, hf⟩ := operate_valid s (flagA ||| flagM) data h
  exact ⟨s', by simp [MetaAD, e, Except.map], v, hf⟩

theorem frame_ok (s : Strobe) (label : List UInt8) (n : Nat) (h : Valid s) :
    ∃ s', frame s label n = .ok s' ∧ Valid s' := by
  obtain ⟨s1, e1, v1, f1⟩ := MetaAD_ok s label h
  obtain ⟨s2, out, e2, i2, _, _, hi2, _⟩ :=
    operate_ok s1 (flagA ||| flagM) (le32 n) true v1.inv v1.init (fun _ => f1.symm)
  have e2' : MetaAD s1 (le32 n) true = .ok s2 := by simp [MetaAD, e2, Except.map]
  exact ⟨s2, by simp [frame, e1, e2'], i2, hi2⟩

theorem appendMessage_ok (t : Transcript) (label msg : List UInt8) (h : Valid t.s)
    (hl : label.length ≤ maxUint32) (hm : msg.length ≤ maxUint32) :
    ∃ t', appendMessage t label msg = .ok t' ∧ Valid t'.s := by
  obtain ⟨s1, e1, v1⟩ := frame_ok t.s label msg.length h
  obtain ⟨s2, out, e2, v2, _⟩ := operate_valid s1 flagA msg v1
  exact ⟨{ s := s2 }, by simp [appendMessage, Nat.not_lt.mpr hl, Nat.not_lt.mpr hm, e1, AD, e2, Except.map, liftS], v2⟩

/-- stated once, with the state left abstract: every proof that unfolds `newTranscript` makes the kernel run
`New("Merlin v1.0")` -/
theorem newTranscript_eq :
    ∃ s, Valid s ∧ ∀ appLabel, newTranscript appLabel = appendMessage { s := s } domainSeparatorLabel appLabel := by
  obtain ⟨s, e, i, _, hi, _⟩ := new_ok merlinProtocolLabel
  exact ⟨s, ⟨i, hi⟩, fun appLabel => by unfold newTranscript; rw [e]⟩

theorem newTranscript_ok (appLabel : List UInt8) (hl : appLabel.length ≤ maxUint32) :
    ∃ t, newTranscript appLabel = .ok t ∧ Valid t.s := by
  obtain ⟨s, v, e⟩ := newTranscript_eq
  rw [e]
  exact appendMessage_ok _ _ _ v (by decide) hl

theorem extractBytes_ok (t : Transcript) (label : List UInt8) (n : Nat) (h : Valid t.s)
    (hl : label.length ≤ maxUint32) (hn : n ≤ maxUint32) :
    ∃ t' out, extractBytes t label n = .ok (t', out) ∧ Valid t'.s ∧ out.length = n := by
  obtain ⟨s1, e1, v1⟩ := frame_ok t.s label n h
  obtain ⟨s2, out, e2, v2, l2, _⟩ := operate_valid s1 (flagI ||| flagA ||| flagC) (List.replicate n 0) v1
  exact ⟨{ s := s2 }, out,
    by simp [extractBytes, Nat.not_lt.mpr hl, Nat.not_lt.mpr hn, e1, PRF, PRFm, e2, Except.map, liftS],
    v2, by simpa using l2⟩

theorem rekey_ok (s : Strobe) (label witness : List UInt8) (h : Valid s)
    (hl : label.length ≤ maxUint32) (hw : witness.length ≤ maxUint32) :
    ∃ s', rekeyWithWitnessBytes { s := some s } label witness = .ok { s := some s' } ∧ Valid s' := by
  obtain ⟨s1, e1, v1⟩ := frame_ok s label witness.length h
  obtain ⟨s2, out, e2, v2, _⟩ := operate_valid s1 (flagA ||| flagC) witness v1
  exact ⟨s2, by simp [rekeyWithWitnessBytes, Nat.not_lt.mpr hl, Nat.not_lt.mpr hw, e1, KEY, KEYm, e2, Except.map, liftS],
    v2⟩

theorem finalize_ok (s : Strobe) (entropy : List UInt8) (h : Valid s) (he : 32 ≤ entropy.length) :
    ∃ s', finalize { s := some s } entropy = .ok ({ s := none }, { s := s' }) ∧ Valid s' := by
  obtain ⟨s1, e1, v1, _⟩ := MetaAD_ok s rngLabel h
  obtain ⟨s2, out, e2, v2, _⟩ := operate_valid s1 (flagA ||| flagC) (entropy.take 32) v1
  exact ⟨s2, by simp [finalize, Nat.not_lt.mpr he, e1, KEY, KEYm, e2, Except.map, liftS], v2⟩

theorem read_ok (rng : TranscriptRng) (n : Nat) (h : Valid rng.s) (hn : n ≤ maxUint32) :
    ∃ rng' out, rng.read n = .ok (rng', out) ∧ Valid rng'.s ∧ out.length = n := by
  obtain ⟨s1, e1, v1, _⟩ := MetaAD_ok rng.s (le32 n) h
  obtain ⟨s2, out, e2, v2, l2, _⟩ := operate_valid s1 (flagI ||| flagA ||| flagC) (List.replicate n 0) v1
  exact ⟨{ s := s2 }, out, by simp [TranscriptRng.read, Nat.not_lt.mpr hn, e1, PRF, PRFm, e2, Except.map, liftS],
    v2, by simpa using l2⟩

/-! Non-vacuity: the hypotheses of the theorems hold of non-trivial states. -/

def exState : Strobe :=
  { st := (Array.range 200).map UInt8.ofNat, pos := 23, posBegin := 17, initialized := true,
    curFlags := flagA ||| flagM, r := R }

/-- one byte before the block boundary: the next byte triggers `runF` -/
def exEdge : Strobe := { exState with pos := R - 1, posBegin := R }

theorem exState_inv : Inv exState := ⟨by simp [exState], by decide, by decide, by decide⟩
theorem exEdge_inv : Inv exEdge := ⟨by simp [exEdge, exState], by decide, by decide, by decide⟩
example : Valid exState := ⟨exState_inv, rfl⟩
-- the hypotheses of `runF_ok` with `pos = r`
example : ({ exState with pos := R } : Strobe).st.size = 200 ∧ ({ exState with pos := R } : Strobe).r + 1 < 200
    ∧ ({ exState with pos := R } : Strobe).pos ≤ ({ exState with pos := R } : Strobe).r :=
  ⟨by simp [exState], by decide, by decide⟩
-- `hm` of `operate_ok`: the current flags are meta-AD
example : (true = true → (flagA ||| flagM) = exState.curFlags) := fun _ => rfl
-- `operate_mismatch`: AD continuation of a meta-AD
example : flagA ≠ exState.curFlags := by decide
-- `operate_uninit`
example : zeroValue.initialized = false := rfl
/-- with `pos = 199` the second access of `runF` is `st[200]`; about any such state, so that the instance below is
checked without the kernel evaluating the example state -/
theorem runF_oob {s : Strobe} (hi : s.initialized = true) (hsz : s.st.size = 200) (hp : s.pos = 199) :
    runF s = .error .oob := by
  have h1 : s.pos < s.st.size := by omega
  have h2 (v : UInt8) : ¬ s.pos + 1 < (s.st.set s.pos v).size := by rw [Array.size_set]; omega
  simp only [runF, hi, if_true, xorAt_ok _ h1, xorAt_oob _ _ _ (h2 _)]
-- the `oob` check of the model is live: a state violating `Inv` reaches it
theorem oob_is_live : runF { exState with pos := 199 } = .error .oob := runF_oob rfl exState_inv.size rfl
-- the largest `posBegin` under `Inv`: `pos + 1 = R`
example : exEdge.posBegin = 166 := rfl
example : (fun k => if k = 0 then some exState else none : Heap) 0 = some exState := rfl

example : ∃ s' out, operate exState (flagA ||| flagM) [1, 2, 3] true = .ok (s', out) ∧ Inv s' ∧ out.length = 3 ∧
    s'.r = exState.r ∧ s'.initialized = true ∧ s'.curFlags = (flagA ||| flagM) :=
  operate_ok exState _ _ true exState_inv rfl (fun _ => rfl)
-- a PRF begun one byte before the boundary: the header straddles the block, 400 output bytes cross two more
example : ∃ s' out, operate exEdge (flagI ||| flagA ||| flagC) (List.replicate 400 0) false = .ok (s', out) ∧ Inv s' ∧
    out.length = (List.replicate 400 (0 : UInt8)).length ∧ s'.r = exEdge.r ∧ s'.initialized = true ∧
    s'.curFlags = (flagI ||| flagA ||| flagC) :=
  operate_ok exEdge _ _ false exEdge_inv rfl (fun hc => by cases hc)
example : operate exEdge flagA [9] true = .error .flagMismatch := operate_mismatch exEdge flagA [9] rfl (by decide)
example : operate zeroValue flagA [9] false = .error .uninit := operate_uninit zeroValue flagA [9] false rfl
example : ∀ r ∈ (run exEdge [.ad false false [1, 2], .prf true 7, .key false [3], .ad true true []]).2, r ≠ .error .oob :=
  run_no_oob _ exEdge exEdge_inv
example : ∃ s0, new [0x41] = .ok s0 ∧ Inv (run s0 [.prf false 500]).1 ∧ (run s0 [.prf false 500]).1.r = R ∧
    ∀ r ∈ (run s0 [.prf false 500]).2, r ≠ .error .oob := history_from_new [0x41] [.prf false 500]
-- chunking across the boundary at `exEdge`
example : AD exEdge ([1, 2] ++ [3, 4, 5]) false =
    (match AD exEdge [1, 2] false with | .error e => .error e | .ok s1 => AD s1 [3, 4, 5] true) := AD_append _ _ _ _
example : PRFm exEdge (165 + 2) false =
    (match PRFm exEdge 165 false with
     | .error e => .error e
     | .ok (s1, o1) => match PRFm s1 2 true with | .error e => .error e | .ok (s2, o2) => .ok (s2, o1 ++ o2)) :=
  PRFm_add _ _ _ _
def exHeap : Heap := fun k => if k = 0 then some exState else none
example : ((exHeap.clone 0 1).applyAll 1 [.key false [1, 2, 3], .prf false 40]) 0 = some exState := by
  rw [clone_independent exHeap 0 1 _ (by decide)]; rfl
example : ((exHeap.clone 0 1).applyAll 0 [.key false [1, 2, 3], .prf false 40]) 1 = some exState :=
  origin_independent exHeap 0 1 _ (by decide) exState rfl
example : ∃ t, newTranscript [0x74, 0x65, 0x73, 0x74] = .ok t ∧ Valid t.s := newTranscript_ok _ (by decide)

#print axioms permute_size
#print axioms posBegin_lt_256
#print axioms access_in_range
#print axioms runF_ok
#print axioms duplexByte_ok
#print axioms duplexLoop_ok
#print axioms duplex_ok
#print axioms beginOp_ok
#print axioms operate_uninit
#print axioms operate_mismatch
#print axioms operate_ok
#print axioms operate_no_oob
#print axioms operate_inv
#print axioms new_ok
#print axioms run_inv
#print axioms run_no_oob
#print axioms history_from_new
#print axioms duplexLoop_append
#print axioms operate_append
#print axioms AD_append
#print axioms MetaAD_append
#print axioms KEYm_append
#print axioms PRFm_add
#print axioms operate_chunks
#print axioms clone_independent
#print axioms origin_independent
#print axioms clone_same_step
#print axioms newTranscript_ok
#print axioms appendMessage_ok
#print axioms extractBytes_ok
#print axioms rekey_ok
#print axioms finalize_ok
#print axioms read_ok
#print axioms oob_is_live
#print axioms exState_inv
end Voi.Props.StrobeInv

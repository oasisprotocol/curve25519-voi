/-
C05 (predicate clause) / C01 (`Laws.scMinimal_iff`): the byte-wise model of `scalar.ScMinimalVartime`
(`Voi.Model.Ed25519.scMinimalVartime`: fast paths on the top byte, then the 64-bit-word comparison loop against
`order[3..0]`) decides `little-endian value < L`, for all byte strings (`scMinimal_iff`).
Proof: `leNat (b[8i .. 8i+8]) = leNat b / 2^(64 i) % 2^64` and `b[31] = leNat b / 2^248` (`leNat_bslice`, `get_last`),
the four words of `L` by kernel evaluation, the loop as a lexicographic comparison (`lex_step`), then linear arithmetic
on `n = w0 + 2^64 w1 + 2^128 w2 + 2^192 w3`.
-/
import Voi.Model.Ed25519
import Voi.Props.BytesMore

namespace Voi.Props.ScMinimal
open Voi Voi.Spec Voi.Model.Ed25519 Voi.Props.Bytes

theorem get_last (b : Bytes) (hs : b.size = 32) : (b.get! 31).toNat = leNat b / 256 ^ 31 := get!_last hs

theorem orderWord_0 : orderWord 0 = 0x5812631a5cf5d3ed := by decide
theorem orderWord_1 : orderWord 1 = 0x14def9dea2f79cd6 := by decide
theorem orderWord_2 : orderWord 2 = 0 := by decide
theorem orderWord_3 : orderWord 3 = 0x1000000000000000 := by decide

theorem L_words : L = 0x5812631a5cf5d3ed + 2 ^ 64 * 0x14def9dea2f79cd6 + 2 ^ 128 * 0 + 2 ^ 192 * 0x1000000000000000 := by
  decide

/-- the two masks of the fast paths -/
theorem top_masks : ∀ t : Fin 256, ((t.val &&& 240 = 0) ↔ t.val < 16) ∧ ((t.val &&& 224 ≠ 0) ↔ 32 ≤ t.val) := by
  decide +kernel

/-- the loop `for i := 3; ; i-- { … }`, unrolled -/
theorem scMinLoop_3 (b : Bytes) : scMinLoop b 3 =
    (if leU64 b 3 > orderWord 3 then false else if leU64 b 3 < orderWord 3 then true
     else if leU64 b 2 > orderWord 2 then false else if leU64 b 2 < orderWord 2 then true
     else if leU64 b 1 > orderWord 1 then false else if leU64 b 1 < orderWord 1 then true
     else if leU64 b 0 > orderWord 0 then false else if leU64 b 0 < orderWord 0 then true
     else false) := rfl

theorem lex_step (v c : Nat) (r : Bool) :
    (if v > c then false else if v < c then true else r) = true ↔ v < c ∨ v = c ∧ r = true := by
  rcases Nat.lt_trichotomy v c with h | h | h
  · simp [h, Nat.lt_asymm h]
  · simp [h]
  · simp [h, Nat.lt_asymm h, Nat.ne_of_gt h]

theorem leU64_lt (b : Bytes) (i : Nat) : leU64 b i < 2 ^ 64 := by
  unfold leU64
  rw [leNat_bslice]
  exact Nat.mod_lt _ (by decide)

theorem scMinLoop_iff (b : Bytes) :
    scMinLoop b 3 = true ↔
      leU64 b 0 + 2 ^ 64 * leU64 b 1 + 2 ^ 128 * leU64 b 2 + 2 ^ 192 * leU64 b 3 < L := by
  have h0 := leU64_lt b 0
  have h1 := leU64_lt b 1
  have h2 := leU64_lt b 2
  have h3 := leU64_lt b 3
  rw [L_words, scMinLoop_3, orderWord_0, orderWord_1, orderWord_2, orderWord_3]
  simp only [lex_step, Bool.false_eq_true, and_false, or_false]
  omega

theorem words_sum (b : Bytes) (hs : b.size = 32) :
    leU64 b 0 + 2 ^ 64 * leU64 b 1 + 2 ^ 128 * leU64 b 2 + 2 ^ 192 * leU64 b 3 = leNat b := by
  have hlt := leNat_lt_of_size hs
  unfold leU64
  simp only [leNat_bslice, Nat.reduceMul, Nat.reducePow] at hlt ⊢
  omega

/-- C05: `ScMinimalVartime` decides `value < L`; other lengths: `false` -/
theorem scMinimal_iff (b : Bytes) : scMinimalVartime b = true ↔ b.size = 32 ∧ leNat b < L := by
  by_cases hs : b.size = 32
  case neg => simp [scMinimalVartime, hs]
  have hlt := leNat_lt_of_size hs
  have htop : (b.get! 31).toNat = leNat b / 2 ^ 248 := get_last b hs
  have htlt : leNat b / 2 ^ 248 < 256 := by omega
  obtain ⟨m1, m2⟩ := top_masks ⟨leNat b / 2 ^ 248, htlt⟩
  simp only at m1 m2
  have hL1 : 2 ^ 252 < L := by decide
  have hL2 : L < 2 ^ 253 := by decide
  unfold scMinimalVartime
  simp only [hs, ne_eq, not_true_eq_false, if_false, htop, true_and]
  by_cases c1 : leNat b / 2 ^ 248 &&& 240 = 0
  · simp only [c1, if_true, true_iff]
    have := m1.1 c1
    omega
  · simp only [c1, if_false]
    by_cases c2 : leNat b / 2 ^ 248 &&& 224 ≠ 0
    · simp only [c2]
      have := m2.1 c2
      constructor
      · intro h; cases h
      · intro h; omega
    · simp only [c2, if_false]
      rw [scMinLoop_iff, words_sum b hs]

theorem scMinimal_iff' (b : Bytes) (hs : b.size = 32) : scMinimalVartime b = true ↔ leNat b < L := by
  rw [scMinimal_iff]; exact ⟨fun h => h.2, fun h => ⟨hs, h⟩⟩

example : scMinimalVartime (natLE (L - 1) 32) = true := by decide +kernel
example : scMinimalVartime (natLE L 32) = false := by decide +kernel
example : scMinimalVartime (natLE (2 ^ 252 - 1) 32) = true := by decide +kernel
example : scMinimalVartime (natLE (2 ^ 256 - 1) 32) = false := by decide +kernel
example : scMinimalVartime (natLE 0 31) = false := by decide +kernel
example : leNat (natLE (L - 1) 32) < L := ((scMinimal_iff _).1 (by decide +kernel)).2

end Voi.Props.ScMinimal

#print axioms Voi.Props.Bytes.leNat_bslice
#print axioms Voi.Props.ScMinimal.get_last
#print axioms Voi.Props.ScMinimal.scMinLoop_iff
#print axioms Voi.Props.ScMinimal.scMinimal_iff

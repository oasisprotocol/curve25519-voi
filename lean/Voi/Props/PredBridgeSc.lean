/-
Bridge between the regenerated variable-time predicates (decision trees that go2ir extracts from the control flow of
`scalar.ScMinimalVartime` and `curve.(*CompressedEdwardsY).IsCanonicalVartime`, proved in `Voi.Props.L0.Pred_*` over 32
byte variables) and the specification predicates over byte strings that the C01/C02/C10/C12/C15 theorems use, so that for
these two functions what the code decides and what the specification says are connected by theorems alone.  Here
`ScMinimalVartime` (`scMinimal_tree_eq_spec`, `scMinimal_tree_eq_model`); `IsCanonicalVartime` is in `Props/PredBridge`.
-/
import Voi.Props.L0.Pred_ScMinimalVartime
import Voi.Props.ScMinimal
import Voi.Props.BytesMore
namespace Voi.Props.PredBridge
open Voi Voi.Spec Voi.Props.Bytes Voi.Gen.Pred

abbrev byte (b : Bytes) (i : Nat) : Nat := (b.get! i).toNat

theorem byte_lt (b : Bytes) (i : Nat) : byte b i < 256 := UInt8.toNat_lt _

/-- also beyond the end of the string, where both sides are 0 -/
theorem byte_eq (b : Bytes) (i : Nat) : byte b i = leNat b / 256 ^ i % 256 := by
  by_cases h : i < b.size
  · exact get!_toNat b i h
  · rw [Nat.div_eq_of_lt (Nat.lt_of_lt_of_le (leNat_lt b) (Nat.pow_le_pow_right (by decide) (Nat.le_of_not_lt h)))]
    show (b.get! i).toNat = 0
    rw [get!_eq, getElem!_neg b i h]
    rfl

/-- for a numeral `k` it unfolds to the sum written out -/
def bsum (b : Bytes) : Nat → Nat
  | 0 => 0
  | k + 1 => bsum b k + 2 ^ (8 * k) * byte b k

theorem bsum_eq (b : Bytes) : ∀ k, bsum b k = leNat b % 256 ^ k
  | 0 => by rw [bsum, Nat.pow_zero, Nat.mod_one]
  | k + 1 => by rw [bsum, bsum_eq b k, byte_eq, Nat.pow_mul, Nat.mod_pow_succ]

theorem leNat_sum32 (b : Bytes) (hs : b.size = 32) :
    byte b 0 + 2^8*byte b 1 + 2^16*byte b 2 + 2^24*byte b 3 + 2^32*byte b 4 + 2^40*byte b 5 + 2^48*byte b 6 + 2^56*byte b 7 + 2^64*byte b 8 + 2^72*byte b 9 + 2^80*byte b 10 + 2^88*byte b 11 + 2^96*byte b 12 + 2^104*byte b 13 + 2^112*byte b 14 + 2^120*byte b 15 + 2^128*byte b 16 + 2^136*byte b 17 + 2^144*byte b 18 + 2^152*byte b 19 + 2^160*byte b 20 + 2^168*byte b 21 + 2^176*byte b 22 + 2^184*byte b 23 + 2^192*byte b 24 + 2^200*byte b 25 + 2^208*byte b 26 + 2^216*byte b 27 + 2^224*byte b 28 + 2^232*byte b 29 + 2^240*byte b 30 + 2^248*byte b 31 = leNat b := by
  have h := bsum_eq b 32
  rw [Nat.mod_eq_of_lt (leNat_lt_of_size hs)] at h
  simpa only [bsum, Nat.reduceMul, Nat.pow_zero, Nat.one_mul, Nat.zero_add] using h

theorem yField_sum32 (b : Bytes) (hs : b.size = 32) :
    byte b 0 + 2^8*byte b 1 + 2^16*byte b 2 + 2^24*byte b 3 + 2^32*byte b 4 + 2^40*byte b 5 + 2^48*byte b 6 + 2^56*byte b 7 + 2^64*byte b 8 + 2^72*byte b 9 + 2^80*byte b 10 + 2^88*byte b 11 + 2^96*byte b 12 + 2^104*byte b 13 + 2^112*byte b 14 + 2^120*byte b 15 + 2^128*byte b 16 + 2^136*byte b 17 + 2^144*byte b 18 + 2^152*byte b 19 + 2^160*byte b 20 + 2^168*byte b 21 + 2^176*byte b 22 + 2^184*byte b 23 + 2^192*byte b 24 + 2^200*byte b 25 + 2^208*byte b 26 + 2^216*byte b 27 + 2^224*byte b 28 + 2^232*byte b 29 + 2^240*byte b 30 + 2^248*(byte b 31 % 128) = leNat b % 2 ^ 255 := by
  have h := bsum_eq b 31
  simp only [bsum, Nat.reduceMul, Nat.pow_zero, Nat.one_mul, Nat.zero_add] at h
  rw [h, byte_eq]
  have := leNat_lt_of_size hs
  omega

theorem Lnat_eq : Voi.Props.L0.Lnat = L := by decide

/-- `scalar.ScMinimalVartime` as regenerated decides `value < L` -/
theorem scMinimal_tree_eq_spec (b : Bytes) (hs : b.size = 32) :
    ScMinimalVartime_sh (byte b 0) (byte b 1) (byte b 2) (byte b 3) (byte b 4) (byte b 5) (byte b 6) (byte b 7) (byte b 8) (byte b 9) (byte b 10) (byte b 11) (byte b 12) (byte b 13) (byte b 14) (byte b 15) (byte b 16) (byte b 17) (byte b 18) (byte b 19) (byte b 20) (byte b 21) (byte b 22) (byte b 23) (byte b 24) (byte b 25) (byte b 26) (byte b 27) (byte b 28) (byte b 29) (byte b 30) (byte b 31) = [if leNat b < L then 1 else 0] := by
  rw [Voi.Props.L0.Pred_ScMinimalVartime _ _ _ _ _ _ _ _ _ _ _ _ _ _ _ _ _ _ _ _ _ _ _ _ _ _ _ _ _ _ _ _ (byte_lt b 0) (byte_lt b 1) (byte_lt b 2) (byte_lt b 3) (byte_lt b 4) (byte_lt b 5) (byte_lt b 6) (byte_lt b 7) (byte_lt b 8) (byte_lt b 9) (byte_lt b 10) (byte_lt b 11) (byte_lt b 12) (byte_lt b 13) (byte_lt b 14) (byte_lt b 15) (byte_lt b 16) (byte_lt b 17) (byte_lt b 18) (byte_lt b 19) (byte_lt b 20) (byte_lt b 21) (byte_lt b 22) (byte_lt b 23) (byte_lt b 24) (byte_lt b 25) (byte_lt b 26) (byte_lt b 27) (byte_lt b 28) (byte_lt b 29) (byte_lt b 30) (byte_lt b 31),
    leNat_sum32 b hs, Lnat_eq]

/-- hence the hand-written byte-wise model agrees with the regenerated tree -/
theorem scMinimal_tree_eq_model (b : Bytes) (hs : b.size = 32) :
    ScMinimalVartime_sh (byte b 0) (byte b 1) (byte b 2) (byte b 3) (byte b 4) (byte b 5) (byte b 6) (byte b 7) (byte b 8) (byte b 9) (byte b 10) (byte b 11) (byte b 12) (byte b 13) (byte b 14) (byte b 15) (byte b 16) (byte b 17) (byte b 18) (byte b 19) (byte b 20) (byte b 21) (byte b 22) (byte b 23) (byte b 24) (byte b 25) (byte b 26) (byte b 27) (byte b 28) (byte b 29) (byte b 30) (byte b 31) = [if Voi.Model.Ed25519.scMinimalVartime b = true then 1 else 0] := by
  rw [scMinimal_tree_eq_spec b hs]
  simp only [Voi.Props.ScMinimal.scMinimal_iff' b hs]

end Voi.Props.PredBridge

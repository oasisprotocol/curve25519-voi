import Lean.Meta.Tactic.Simp.RegisterCommand

/-- `simp only [fp]` maps an expression built from the executable field operations to its value in `ZMod p`
(`toZ (Fp.mul a b) = toZ a * toZ b`, …) and settles the range facts `Fp.mul a b < p`, …; `ring` does the rest. -/
register_simp_attr fp

/-
The field dictionary of the whole development (it sits under Props/C07, but nothing in it is about X25519): the executable
field `Voi.Spec.Fp` (naturals kept reduced mod p = 2^255 - 19) read in `ZMod p`; primality of p is not used here, what needs
it is in Proofs/SqrtRatio.  `toZ` is the canonical map ℕ → ZMod p, injective on reduced representatives (`toZ_inj`);
every operation is the ring operation of `ZMod p` (`Fp.pow a e` is `a ^ e` for exponents below 2^256, so `Fp.inv a` is
`a ^ (p - 2)`) and returns a reduced value.  These lemmas carry the attribute `fp`: `simp only [fp]` turns an equation between
`Fp` expressions into one in `ZMod p`, which `ring` decides.
-/
import Mathlib.Data.ZMod.Basic
import Mathlib.Tactic.Ring
import Voi.Spec.Field
import Voi.Props.C07.Attr
namespace Voi.Props.C07
open Voi Voi.Spec

def toZ (a : Nat) : ZMod p := (a : ZMod p)

theorem p_pos : 0 < p := by decide
theorem p_lt : p < 2 ^ 255 := by decide

@[fp] theorem toZ_mod (a : Nat) : toZ (a % p) = toZ a := ZMod.natCast_mod a p

theorem toZ_p : toZ p = 0 := ZMod.natCast_self p

@[fp] theorem toZ_add (a b : Nat) : toZ (Fp.add a b) = toZ a + toZ b := by
  unfold Fp.add; rw [toZ_mod]; exact Nat.cast_add a b

@[fp] theorem toZ_mul (a b : Nat) : toZ (Fp.mul a b) = toZ a * toZ b := by
  unfold Fp.mul; rw [toZ_mod]; exact Nat.cast_mul a b

@[fp] theorem toZ_sq (a : Nat) : toZ (Fp.sq a) = toZ a * toZ a := by
  unfold Fp.sq; rw [toZ_mod]; exact Nat.cast_mul a a

theorem toZ_p_sub_mod (a : Nat) : toZ (p - a % p) = -toZ a := by
  unfold toZ
  rw [Nat.cast_sub (Nat.mod_lt a p_pos).le, ZMod.natCast_self, ZMod.natCast_mod, zero_sub]

@[fp] theorem toZ_neg (a : Nat) : toZ (Fp.neg a) = - toZ a := by
  unfold Fp.neg; rw [toZ_mod, toZ_p_sub_mod]

@[fp] theorem toZ_sub (a b : Nat) : toZ (Fp.sub a b) = toZ a - toZ b := by
  unfold Fp.sub; rw [toZ_mod, sub_eq_add_neg, ← toZ_p_sub_mod]; exact Nat.cast_add _ _

/- `no_index`: a numeral is not indexed as `OfNat.ofNat n` in simp's discrimination tree, so the lemma has to be tried on
every `toZ _`. -/
@[fp] theorem toZ_ofNat (n : Nat) [n.AtLeastTwo] : toZ (no_index (OfNat.ofNat n)) = (OfNat.ofNat n : ZMod p) :=
  Nat.cast_ofNat

@[fp] theorem toZ_one : toZ 1 = 1 := Nat.cast_one
@[fp] theorem toZ_zero : toZ 0 = 0 := Nat.cast_zero

theorem toZ_p_sub_one : toZ (p - 1) = -1 := by
  unfold toZ
  rw [Nat.cast_sub p_pos, ZMod.natCast_self, Nat.cast_one, zero_sub]

theorem toZ_eq_iff {a b : Nat} : toZ a = toZ b ↔ a % p = b % p := ZMod.natCast_eq_natCast_iff' a b p

theorem toZ_eq_zero_iff {a : Nat} : toZ a = 0 ↔ a % p = 0 := by rw [← toZ_zero, toZ_eq_iff, Nat.zero_mod]

theorem toZ_inj_iff {a b : Nat} (ha : a < p) (hb : b < p) : toZ a = toZ b ↔ a = b := by
  rw [toZ_eq_iff, Nat.mod_eq_of_lt ha, Nat.mod_eq_of_lt hb]

theorem toZ_inj {a b : Nat} (ha : a < p) (hb : b < p) (h : toZ a = toZ b) : a = b := (toZ_inj_iff ha hb).1 h

theorem eq_zero_of_toZ {a : Nat} (ha : a < p) (h : toZ a = 0) : a = 0 := toZ_inj ha p_pos (h.trans toZ_zero.symm)

theorem beq_iff_toZ {a b : Nat} (ha : a < p) (hb : b < p) : (a == b) = true ↔ toZ a = toZ b :=
  beq_iff_eq.trans (toZ_inj_iff ha hb).symm

theorem ofNat_ne_zero (n : Nat) [n.AtLeastTwo] (h : n % p ≠ 0) : (OfNat.ofNat n : ZMod p) ≠ 0 :=
  fun h0 => h (toZ_eq_zero_iff.1 ((toZ_ofNat n).trans h0))

@[fp] theorem mod_lt (a : Nat) : a % p < p := Nat.mod_lt _ p_pos
@[fp] theorem add_lt (a b : Nat) : Fp.add a b < p := mod_lt _
@[fp] theorem sub_lt (a b : Nat) : Fp.sub a b < p := mod_lt _
@[fp] theorem neg_lt (a : Nat) : Fp.neg a < p := mod_lt _
@[fp] theorem mul_lt (a b : Nat) : Fp.mul a b < p := mod_lt _
@[fp] theorem sq_lt (a : Nat) : Fp.sq a < p := mod_lt _

theorem toZ_powAux (fuel : Nat) : ∀ (base e acc : Nat), e < 2 ^ fuel →
    toZ (Fp.powAux base fuel e acc) = toZ acc * toZ base ^ e := by
  induction fuel with
  | zero =>
    intro base e acc he
    obtain rfl : e = 0 := by omega
    simp [Fp.powAux]
  | succ n ih =>
    intro base e acc he
    unfold Fp.powAux
    split
    · next h0 => rw [h0, pow_zero, mul_one]
    · -- e = 2 (e / 2) + e % 2: the low bit multiplies into the accumulator, the rest is done on base²
      rw [ih _ _ _ (by omega), toZ_mod, show toZ (base * base) = toZ base * toZ base from Nat.cast_mul _ _]
      conv_rhs => rw [← Nat.div_add_mod e 2, pow_add, pow_mul]
      split
      · next h1 => rw [h1, toZ_mod, show toZ (acc * base) = toZ acc * toZ base from Nat.cast_mul _ _]; ring
      · next h1 => rw [show e % 2 = 0 by omega]; ring

theorem toZ_pow (a e : Nat) (he : e < 2 ^ 256) : toZ (Fp.pow a e) = toZ a ^ e := by
  unfold Fp.pow
  rw [toZ_powAux 256 _ _ _ he, toZ_mod, toZ_one, one_mul]

theorem toZ_inv (a : Nat) : toZ (Fp.inv a) = toZ a ^ (p - 2) := by
  unfold Fp.inv
  exact toZ_pow a (p - 2) (by decide)

theorem powAux_lt : ∀ (fuel base e acc : Nat), acc < p → Fp.powAux base fuel e acc < p := by
  intro fuel
  induction fuel with
  | zero => intro _ _ _ h; simpa [Fp.powAux] using h
  | succ n ih =>
    intro base e acc h
    unfold Fp.powAux
    split
    · exact h
    · apply ih
      split
      · exact mod_lt _
      · exact h

@[fp] theorem pow_lt (a e : Nat) : Fp.pow a e < p := powAux_lt _ _ _ _ (by decide)
@[fp] theorem inv_lt (a : Nat) : Fp.inv a < p := pow_lt a _

theorem fp_neg_zero : Fp.neg 0 = 0 := by decide
theorem fp_abs_zero : Fp.abs 0 = 0 := by decide

theorem fp_add_comm (a b : Nat) : Fp.add a b = Fp.add b a := by unfold Fp.add; rw [Nat.add_comm]
theorem fp_mul_comm (a b : Nat) : Fp.mul a b = Fp.mul b a := by unfold Fp.mul; rw [Nat.mul_comm]
theorem fp_two_mul (a : Nat) : Fp.mul 2 a = Fp.add a a := by unfold Fp.mul Fp.add; rw [Nat.two_mul]

theorem fp_mul_one {a : Nat} (ha : a < p) : Fp.mul a 1 = a := by
  unfold Fp.mul; rw [Nat.mul_one, Nat.mod_eq_of_lt ha]

theorem fp_neg_neg {a : Nat} (ha : a < p) : Fp.neg (Fp.neg a) = a :=
  toZ_inj (neg_lt _) ha (by rw [toZ_neg, toZ_neg, neg_neg])

theorem fp_neg_mul (a b : Nat) : Fp.mul (Fp.neg a) b = Fp.neg (Fp.mul a b) :=
  toZ_inj (mul_lt _ _) (neg_lt _) (by simp only [fp]; ring)

theorem fp_mul_assoc (a b c : Nat) : Fp.mul a (Fp.mul b c) = Fp.mul (Fp.mul a b) c :=
  toZ_inj (mul_lt _ _) (mul_lt _ _) (by simp only [fp]; ring)

theorem p_odd : p % 2 = 1 := by decide

theorem isNeg_zero : Fp.isNeg 0 = false := by decide

/-- because `p` is odd -/
theorem isNeg_neg {a : Nat} (h : a % p ≠ 0) : Fp.isNeg (Fp.neg a) = !Fp.isNeg a := by
  unfold Fp.isNeg Fp.neg
  have hm := mod_lt a
  have hp := p_odd
  generalize a % p = m at *
  rw [Nat.mod_mod, Nat.mod_eq_of_lt (show p - m < p by omega), ← decide_not, decide_eq_decide]
  omega

@[fp] theorem abs_lt (a : Nat) : Fp.abs a < p := by
  unfold Fp.abs; split
  · exact neg_lt a
  · exact mod_lt a

theorem abs_nonneg (a : Nat) : Fp.isNeg (Fp.abs a) = false := by
  unfold Fp.abs
  by_cases h : Fp.isNeg a = true
  · have h0 : a % p ≠ 0 := fun h0 => by simp [Fp.isNeg, h0] at h
    rw [if_pos h, isNeg_neg h0, h]; rfl
  · rw [if_neg h]; unfold Fp.isNeg at h ⊢; rwa [Nat.mod_mod, ← Bool.not_eq_true]

theorem neg_abs {a : Nat} (ha : a < p) : Fp.neg (Fp.abs a) = if Fp.isNeg a then a else Fp.neg a := by
  unfold Fp.abs
  cases Fp.isNeg a
  · simp only [Bool.false_eq_true, if_false]; unfold Fp.neg; rw [Nat.mod_mod]
  · simp only [if_true]; exact fp_neg_neg ha

theorem toZ_abs (a : Nat) : toZ (Fp.abs a) = toZ a ∨ toZ (Fp.abs a) = - toZ a := by
  unfold Fp.abs; split
  · right; exact toZ_neg a
  · left; exact toZ_mod a

theorem toZ_abs_sq (a : Nat) : toZ (Fp.abs a) ^ 2 = toZ a ^ 2 := by
  rcases toZ_abs a with h | h <;> rw [h]
  ring

end Voi.Props.C07

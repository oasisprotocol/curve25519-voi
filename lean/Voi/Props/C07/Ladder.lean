/-
C07: the Go ladder (`Voi.Model.Montgomery.mulLoop`, Costello–Smith swap schedule, `Mul121666`) and the RFC 7748
ladder (`Voi.Spec.X25519.ladder`, per-iteration `cswap`, a24 = 121665) compute the same field elements in every
iteration.  No curve theory is used: the two algorithms are equal as programs over ℤ/p.
-/
import Voi.Props.C07.FpRing
import Voi.Model.Montgomery
import Voi.Spec.X25519
namespace Voi.Props.C07
open Voi Voi.Spec

/-- RFC 7748 §5: the arithmetic of one loop iteration after the two `cswap`s; returns the new (x_2, z_2, x_3, z_3). -/
def rfcStep (x1 x2 z2 x3 z3 : Nat) : Nat × Nat × Nat × Nat :=
  let A := Fp.add x2 z2
  let AA := Fp.sq A
  let B := Fp.sub x2 z2
  let BB := Fp.sq B
  let E := Fp.sub AA BB
  let C := Fp.add x3 z3
  let D := Fp.sub x3 z3
  let DA := Fp.mul D A
  let CB := Fp.mul C B
  let x3 := Fp.sq (Fp.add DA CB)
  let z3 := Fp.mul x1 (Fp.sq (Fp.sub DA CB))
  let x2 := Fp.mul AA BB
  let z2 := Fp.mul E (Fp.add AA (Fp.mul Spec.X25519.a24 E))
  (x2, z2, x3, z3)

theorem ladderStep_unfold (x1 k t : Nat) (s : Spec.X25519.State) :
    Spec.X25519.ladderStep x1 k t s =
      (let kt := (k >>> t) &&& 1
       let sw := s.swap ^^^ kt
       let X := Spec.X25519.cswap sw s.x2 s.x3
       let Z := Spec.X25519.cswap sw s.z2 s.z3
       let r := rfcStep x1 X.1 Z.1 X.2 Z.2
       ⟨r.1, r.2.1, r.2.2.1, r.2.2.2, kt⟩) := rfl

/-- Go `montgomeryDifferentialAddAndDouble` = the RFC's step arithmetic, as equal representatives in [0, p), not
merely projectively.  Only `x_2` is the same expression on both sides: the Go code multiplies in the other order
(`t0·t3` where the RFC has `D·A`) and computes `z_2` as `E·(121666·E + BB)` where the RFC has `E·(AA + 121665·E)`,
the same because `E = AA − BB`; `ring` in `ZMod p` decides the three. -/
theorem step_eq_core (x1 x2 z2 x3 z3 : Nat) :
    Model.Montgomery.diffAddAndDouble ⟨x2, z2⟩ ⟨x3, z3⟩ x1 =
      (let r := rfcStep x1 x2 z2 x3 z3
       (⟨r.1, r.2.1⟩, ⟨r.2.2.1, r.2.2.2⟩)) := by
  unfold Model.Montgomery.diffAddAndDouble rfcStep Model.Montgomery.mul121666 Spec.X25519.a24
  simp only [Prod.mk.injEq, Model.Montgomery.ProjPt.mk.injEq]
  refine ⟨⟨trivial, ?_⟩, ?_, ?_⟩
  · apply toZ_inj (mul_lt _ _) (mul_lt _ _)
    simp only [fp]
    ring
  · apply toZ_inj (sq_lt _) (sq_lt _)
    simp only [fp]
    ring
  · apply toZ_inj (mul_lt _ _) (mul_lt _ _)
    simp only [fp]
    ring

theorem lt_of_lt_p {a : Nat} (h : a < p) : a < 2 ^ 256 := Nat.lt_trans h (Nat.lt_trans p_lt (by decide))

theorem cswap_eq_ite {sw a b : Nat} (hsw : sw < 2) (ha : a < 2 ^ 256) (hb : b < 2 ^ 256) :
    Spec.X25519.cswap sw a b = if sw = 1 then (b, a) else (a, b) := by
  unfold Spec.X25519.cswap
  obtain rfl | rfl : sw = 0 ∨ sw = 1 := by omega
  · simp
  · -- the mask is 2^256 − 1 and `a ⊕ b` fits it; then `a ⊕ (a ⊕ b) = b` and `b ⊕ (a ⊕ b) = a`
    have e1 : a ^^^ (a ^^^ b) = b := by rw [← Nat.xor_assoc, Nat.xor_self, Nat.zero_xor]
    have e2 : b ^^^ (a ^^^ b) = a := by rw [Nat.xor_comm a b, ← Nat.xor_assoc, Nat.xor_self, Nat.zero_xor]
    simp only [Nat.one_ne_zero, if_false, if_true]
    rw [Nat.and_comm, Nat.and_two_pow_sub_one_eq_mod, Nat.mod_eq_of_lt (Nat.xor_lt_two_pow ha hb), e1, e2]

theorem bit_lt (k i : Nat) : Model.Montgomery.bit k i < 2 := Nat.mod_lt _ (by decide)

theorem rfc_bit_eq (k t : Nat) : (k >>> t) &&& 1 = Model.Montgomery.bit k t :=
  Nat.and_one_is_mod _

/-- the Go loop state that corresponds to an RFC state -/
def toPair (s : Spec.X25519.State) : Model.Montgomery.ProjPt × Model.Montgomery.ProjPt :=
  (⟨s.x2, s.z2⟩, ⟨s.x3, s.z3⟩)

/-- 2^256 − 1 is the mask of `Spec.X25519.cswap`, within which its xor-swap is exact (`cswap_eq_ite`); the ladder
variables are < p after the first step -/
def Bounded (s : Spec.X25519.State) : Prop :=
  s.x2 < 2 ^ 256 ∧ s.z2 < 2 ^ 256 ∧ s.x3 < 2 ^ 256 ∧ s.z3 < 2 ^ 256

/-- The loop invariant before iteration `t` (after the iterations 254 … t+1): the Go pair *is* the RFC quadruple —
the RFC does not swap back after the step, it remembers `swap = k_{t+1}` instead, and the Go code recomputes that
bit as `bits[t+1]`. -/
structure Rel (k t : Nat) (s : Spec.X25519.State)
    (st : Model.Montgomery.ProjPt × Model.Montgomery.ProjPt) : Prop where
  eq : st = toPair s
  swap : s.swap = Model.Montgomery.bit k t
  bounded : Bounded s

/-- Go's swap on `bits[t+1] ⊕ bits[t]` followed by the differential add-and-double is the RFC's
`swap ^= k_t; cswap; cswap; step; swap = k_t`. -/
theorem rel_step (x1 k t : Nat) {s : Spec.X25519.State}
    {st : Model.Montgomery.ProjPt × Model.Montgomery.ProjPt} (h : Rel k (t + 1) s st) :
    Rel k t (Spec.X25519.ladderStep x1 k t s) (Model.Montgomery.mulStep x1 k t st) := by
  obtain ⟨heq, hsw, hx2, hz2, hx3, hz3⟩ := h
  subst heq
  rw [ladderStep_unfold]
  simp only [rfc_bit_eq, hsw]
  have hc : Model.Montgomery.bit k (t + 1) ^^^ Model.Montgomery.bit k t < 2 :=
    Nat.xor_lt_two_pow (n := 1) (bit_lt _ _) (bit_lt _ _)
  rw [cswap_eq_ite hc hx2 hx3, cswap_eq_ite hc hz2 hz3]
  refine ⟨?_, rfl, ?_⟩
  · unfold Model.Montgomery.mulStep Model.Montgomery.conditionalSwap toPair
    by_cases h1 : Model.Montgomery.bit k (t + 1) ^^^ Model.Montgomery.bit k t = 1
    · simp only [if_pos h1]; rw [step_eq_core]
    · simp only [if_neg h1]; rw [step_eq_core]
  · unfold rfcStep
    exact ⟨lt_of_lt_p (mul_lt _ _), lt_of_lt_p (mul_lt _ _), lt_of_lt_p (sq_lt _), lt_of_lt_p (mul_lt _ _)⟩

theorem rel_loop (x1 k : Nat) : ∀ (n : Nat) {s : Spec.X25519.State}
    {st : Model.Montgomery.ProjPt × Model.Montgomery.ProjPt}, Rel k n s st →
    Rel k 0 (Spec.X25519.ladder x1 k n s) (Model.Montgomery.mulLoop x1 k n st)
  | 0, _, _, h => h
  | n + 1, _, _, h => by
    unfold Spec.X25519.ladder Model.Montgomery.mulLoop
    exact rel_loop x1 k n (rel_step x1 k n h)

/-- `k < 2^255` makes `bits[255] = 0`, the RFC's initial `swap = 0`. -/
theorem rel_init {k x1 : Nat} (hk : k < 2 ^ 255) (hx : x1 < 2 ^ 256) :
    Rel k 255 ⟨1, 0, x1, 1, 0⟩ (Model.Montgomery.ProjPt.identity, ⟨x1, 1⟩) := by
  refine ⟨rfl, ?_, ?_⟩
  · unfold Model.Montgomery.bit
    rw [Nat.shiftRight_eq_div_pow, Nat.div_eq_of_lt hk]
  · exact ⟨by show 1 < 2 ^ 256; decide, by show 0 < 2 ^ 256; decide, hx, by show 1 < 2 ^ 256; decide⟩

end Voi.Props.C07

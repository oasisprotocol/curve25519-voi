/-
C07, clamping: `Model.Montgomery.clampScalar` (`s[0] &= 248; s[31] &= 127; s[31] |= 64` of x25519.go, as a
number) equals RFC 7748's `decodeScalar25519`; it clears bits 0, 1, 2, 255, sets bit 254 and keeps the rest.
-/
import Voi.Model.Montgomery
import Voi.Spec.X25519
namespace Voi.Props.C07
open Voi Voi.Spec

theorem and_248 : ∀ b < 256, b &&& 248 = b - b % 8 := by decide +kernel
theorem and_127_or_64 : ∀ b < 256, ((b &&& 127) ||| 64) = b % 64 + 64 := by decide +kernel

/-- closed form of the clamped scalar: keep bits 3 … 253, set bit 254 -/
def clampNat (n : Nat) : Nat := 8 * (n % 2 ^ 254 / 8) + 2 ^ 254

theorem clampScalar_eq_clampNat (k : Bytes) :
    Model.Montgomery.clampScalar k = clampNat (leNat k) := by
  unfold Model.Montgomery.clampScalar clampNat
  generalize leNat k = n
  simp only []
  rw [and_248 _ (Nat.mod_lt _ (by decide)), and_127_or_64 _ (Nat.mod_lt _ (by decide)),
    Nat.shiftLeft_eq]
  omega

/-- setting bit 254 of `8 a` (`a < 2^252`) the way the RFC's pseudo-code does, by a test of that bit, which is bit 251 of `a` -/
theorem or_bit254 {a : Nat} (ha : a < 2 ^ 252) :
    (if a / 2 ^ 251 % 2 = 1 then 8 * a else 8 * a + 2 ^ 254) = 8 * (a % 2 ^ 251) + 2 ^ 254 := by
  split <;> omega

theorem decodeScalar25519_eq_clampNat (k : Bytes) :
    Spec.X25519.decodeScalar25519 k = clampNat (leNat k) := by
  unfold Spec.X25519.decodeScalar25519 clampNat
  generalize leNat k = n
  simp only [Nat.testBit_eq_decide_div_mod_eq, decide_eq_true_eq]
  have h0 : n - n % 8 = 8 * (n / 8) := by omega
  have h1 : 8 * (n / 8) % 2 ^ 255 = 8 * (n / 8 % 2 ^ 252) :=
    Nat.mul_mod_mul_left 8 (n / 8) (2 ^ 252)
  have h2 : n % 2 ^ 254 / 8 = n / 8 % 2 ^ 252 % 2 ^ 251 :=
    (Nat.mod_mul_right_div_self n 8 (2 ^ 251)).trans (Nat.mod_mod_of_dvd _ (⟨2, rfl⟩ : 2 ^ 251 ∣ 2 ^ 252)).symm
  have h3 : 8 * (n / 8 % 2 ^ 252) / 2 ^ 254 = n / 8 % 2 ^ 252 / 2 ^ 251 :=
    Nat.mul_div_mul_left (n / 8 % 2 ^ 252) (2 ^ 251) (by decide : 0 < 8)
  rw [h0, h1, h2, h3]
  exact or_bit254 (Nat.mod_lt _ (by decide))

theorem clampNat_lt (n : Nat) : clampNat n < 2 ^ 255 := by
  unfold clampNat; omega

theorem clampNat_testBit (n i : Nat) :
    (clampNat n).testBit i =
      if i < 3 ∨ 255 ≤ i then false else if i = 254 then true else n.testBit i := by
  have hb : 2 ^ 3 * (n % 2 ^ 254 / 2 ^ 3) < 2 ^ 254 := by omega
  have hc : clampNat n = 2 ^ 254 * 1 ||| 2 ^ 3 * (n % 2 ^ 254 / 2 ^ 3) := by
    rw [← Nat.two_pow_add_eq_or_of_lt hb]; unfold clampNat; omega
  rw [hc, Nat.testBit_or, Nat.mul_one, Nat.testBit_two_pow, Nat.testBit_two_pow_mul,
    Nat.testBit_div_two_pow, Nat.testBit_mod_two_pow]
  by_cases h3 : i < 3
  · have : ¬ 254 = i := by omega
    have h3' : ¬ i ≥ 3 := by omega
    simp [h3, this, h3']
  · by_cases h255 : 255 ≤ i
    · have : ¬ 254 = i := by omega
      have h' : ¬ (i - 3 + 3 < 254) := by omega
      simp [h255, this, h']
    · by_cases h254 : i = 254
      · subst h254; simp
      · have e : i - 3 + 3 = i := by omega
        have h1 : ¬ 254 = i := fun h => h254 h.symm
        have h2 : i ≥ 3 := by omega
        have h4 : i < 254 := by omega
        have h5 : ¬ (i < 3 ∨ 255 ≤ i) := by omega
        simp [e, h1, h2, h4, h5, h254]

end Voi.Props.C07

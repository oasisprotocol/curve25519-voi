/-
C03 (generic part): every scalar-multiplication routine of `Voi.Model.ScalarMul` returns Σ sᵢ•Pᵢ, over an arbitrary
commutative group (`grp G`).  The differential stream G2 ties the models to package `curve`: it answers `Mul`,
`MulBasepoint`, `DoubleScalarMulBasepointVartime`, `MultiscalarMul`, `MultiscalarMulVartime`, `Expanded*` from these
models instantiated with the executable Spec points.

Per routine, `X_digits` gives the value from hypotheses on the digit arrays and `X_correct` puts in the recoding,
whose digit facts come from C17.  The Straus and Pippenger loops are instances of `horner`; the fixed-base comb
(`basepointPass_eq`) sums over ascending positions and has its own induction.

Not covered: that the projective formulas of curve/models.go represent +, −, 2· (formula level), the AVX2 backend's
formulas, and the instantiation of `G` with the curve group (needs the group law).
-/
import Voi.Props.C03.Basic
import Voi.Props.C03.Buckets
import Mathlib.Tactic.IntervalCases

namespace Voi.Props.C03
open Voi.Model.Recoding Voi.Model.ScalarMul Voi.Props.C17

variable {G : Type} [AddCommGroup G]

theorem lsum_zip_scalars (ss : List Nat) (ps : List G) (f : Nat → Array Int) (v : Array Int → ℤ)
    (h : ∀ s ∈ ss, v (f s) = (s : ℤ)) :
    lsum ((ss.map f).zip ps) (fun dp => v dp.1 • dp.2) = msum ss ps := by
  rw [List.zip_map_left, lsum_map]
  exact lsum_congr _ _ _ (fun t ht => by
    show v (f t.1) • t.2 = _
    rw [h t.1 (List.of_mem_zip ht).1, natCast_zsmul])

theorem allSome_map {α β : Type} (l : List α) (f : α → Option β) (g : α → β) (h : ∀ x ∈ l, f x = some (g x)) :
    GroupOps.allSome (l.map f) = some (l.map g) := by
  induction l with
  | nil => rfl
  | cons x l ih =>
    simp only [List.map_cons]
    rw [h x (by simp)]
    simp only [GroupOps.allSome]
    rw [ih (fun y hy => h y (by simp [hy]))]
    rfl


/-! The Straus loops run over `(points.map table).zip digits`.  Their invariants read a term `x` of a list `l` through
`tb x`, `dg x`, `pt x` (table, digit array, point) and speak of the loop on `l.map fun x => (tb x, dg x)`, which by
`zip_map_swap` is that list for `l = digits.zip points`. -/

theorem zip_map_swap {α β γ : Type} (f : α → γ) (ps : List α) (ds : List β) :
    (ps.map f).zip ds = (ds.zip ps).map fun x => (f x.2, x.1) := by
  rw [← List.zip_swap, List.zip_map_right, List.map_map]
  rfl

theorem strausCTLoop_eq {α : Type} (l : List α) (tb : α → Array G) (dg : α → Array Int) (pt : α → G)
    (hl : ∀ x ∈ l, ∀ i, (grp G).lookup (tb x) (dig (dg x) i) = dig (dg x) i • pt x) :
    ∀ i acc, (grp G).strausCTLoop (l.map fun x => (tb x, dg x)) i acc
      = ((2 : ℤ) ^ (4 * i)) • acc + lsum l (fun x => sumD 4 (dig (dg x)) i • pt x) :=
  horner 4 _ (fun i => lsum l (fun x => dig (dg x) i • pt x)) _ (fun _ => rfl)
    (fun i acc => by
      simp only [GroupOps.strausCTLoop, List.foldl_map]
      rw [foldl_eq_add l _ (fun x => dig (dg x) i • pt x) (fun x hx q => by exact congrArg (q + ·) (hl x hx i)), mulByPow2_eq])
    (lsum_sumD_zero 4 l _ _) (lsum_sumD_succ 4 l _ _)

theorem strausCT_digits (digits : List (Array Int)) (points : List G)
    (hb : ∀ d ∈ digits, ∀ i, (dig d i).natAbs ≤ 8) :
    (grp G).strausCT digits points = lsum (digits.zip points) (fun dp => sumD 4 (dig dp.1) 64 • dp.2) := by
  unfold GroupOps.strausCT
  rw [zip_map_swap, strausCTLoop_eq (digits.zip points) _ _ (·.2)
    (fun dp hdp i => lookup_mkTable dp.2 _ (hb dp.1 (List.of_mem_zip hdp).1 i))]
  simp

/-- C03: `MultiscalarMul` (constant-time Straus) returns `Σ sᵢ•Pᵢ`, for lists of any length and scalars below 2^255. -/
theorem strausCT_correct (ss : List Nat) (ps : List G) (hs : ∀ s ∈ ss, s < 2 ^ 255) :
    (grp G).multiscalarMul ss ps = msum ss ps := by
  unfold GroupOps.multiscalarMul
  rw [strausCT_digits _ _ (List.forall_mem_map.2 fun s h => r16_abs_le_8 s (hs s h))]
  exact lsum_zip_scalars ss ps toRadix16 (fun a => sumD 4 (dig a) 64)
    (fun s h => (r16_value s (by have := hs s h; omega)).2.1)

theorem mulRadix16Loop_eq (tbl : Array G) (digits : Array Int) : ∀ i acc,
    (grp G).mulRadix16Loop tbl digits i acc = (grp G).strausCTLoop [(tbl, digits)] i acc
  | 0, _ => rfl
  | i + 1, _ => mulRadix16Loop_eq tbl digits i _

/-- `edwardsMulGeneric` is the Straus loop on one term, with its first iteration (`16•0 + x`) written as `0 + x` -/
theorem mulRadix16_eq_strausCT (P : G) (digits : Array Int) :
    (grp G).mulRadix16 P digits = (grp G).strausCT [digits] [P] := by
  show (grp G).mulRadix16Loop _ digits 63 (0 + _)
    = (grp G).strausCTLoop [(_, digits)] 63 ((grp G).mulByPow2 0 4 + _)
  rw [mulRadix16Loop_eq, mulByPow2_eq, smul_zero]

theorem mulRadix16_digits (P : G) (digits : Array Int) (hb : ∀ i, (dig digits i).natAbs ≤ 8) :
    (grp G).mulRadix16 P digits = sumD 4 (dig digits) 64 • P := by
  rw [mulRadix16_eq_strausCT, strausCT_digits [digits] [P] (by simpa using hb)]
  simp

theorem mulRadix16_correct (P : G) (n : Nat) (hn : n < 2 ^ 255) :
    (grp G).mulRadix16 P (toRadix16 n) = n • P := by
  rw [mulRadix16_digits P _ (r16_abs_le_8 n hn), (r16_value n (by omega)).2.1, natCast_zsmul]

/-- C03: `EdwardsPoint.Mul` (radix-16 recoding, then `edwardsMulGeneric`) returns `n•P` for every `n < 2^255`. -/
theorem mul_correct (P : G) (n : Nat) (hn : n < 2 ^ 255) : (grp G).mul P n = n • P :=
  mulRadix16_correct P n hn


theorem pippengerLoop_eq (w bc : Nat) (dps : List (Array Int × G)) (hbc : 1 ≤ bc)
    (hd : ∀ dp ∈ dps, ∀ i, (dig dp.1 i).natAbs ≤ bc) :
    ∀ i sum, (grp G).pippengerLoop w bc dps i sum
      = ((2 : ℤ) ^ (w * i)) • sum + lsum dps (fun dp => sumD w (dig dp.1) i • dp.2) :=
  horner w _ (fun i => lsum dps (fun dp => dig dp.1 i • dp.2)) _ (fun _ => rfl)
    (fun i acc => by
      simp only [GroupOps.pippengerLoop, grp_add]
      rw [mulByPow2_eq, column_eq bc i dps hbc (fun dp h => hd dp h i)])
    (lsum_sumD_zero w dps _ _) (lsum_sumD_succ w dps _ _)

/-- `dc` is `ToRadix2wSizeHint(w)` (43, 37, 33 for w = 6, 7, 8: the extra digit of w = 8 included); the digit bound
    `2^w/2` is the bucket count. -/
theorem pippenger_digits (w dc : Nat) (digits : List (Array Int)) (points : List G)
    (hdc : toRadix2wSizeHint w = some dc) (hdc1 : 1 ≤ dc) (hw : 1 ≤ w)
    (hd : ∀ d ∈ digits, ∀ i, (dig d i).natAbs ≤ 2 ^ w / 2) :
    (grp G).pippenger w digits points
      = some (lsum (digits.zip points) (fun dp => sumD w (dig dp.1) dc • dp.2)) := by
  have hbc : 1 ≤ 2 ^ w / 2 := by
    have : 2 ^ 1 ≤ 2 ^ w := Nat.pow_le_pow_right (by decide) hw
    omega
  obtain ⟨k, rfl⟩ : ∃ k, dc = k + 1 := ⟨dc - 1, by omega⟩
  have h := pippengerLoop_eq w _ (digits.zip points) hbc (fun dp h i => hd dp.1 (List.of_mem_zip h).1 i) (k + 1) 0
  rw [smul_zero, zero_add] at h
  unfold GroupOps.pippenger
  rw [hdc, ← h]
  -- the column taken before the loop is iteration `k` of the loop entered with `sum = 0`
  show some ((grp G).pippengerLoop w _ _ k _) = some ((grp G).pippengerLoop w _ _ k ((grp G).mulByPow2 0 w + _))
  rw [mulByPow2_eq, smul_zero, zero_add, Nat.add_sub_cancel]

/-- C17's bound `2^(w-1)` as the bucket count `2^w/2`; `terminalIdx w + 1` is `ToRadix2wSizeHint(w)` -/
theorem radix2w_recoding (w n : Nat) (hw : w = 6 ∨ w = 7 ∨ w = 8) (hn : n < 2 ^ 255) :
    toRadix2w w n = some (radix2w w n) ∧ (∀ i, (dig (radix2w w n) i).natAbs ≤ 2 ^ w / 2)
      ∧ sumD w (dig (radix2w w n)) (terminalIdx w + 1) = (n : ℤ) := by
  have he := toRadix2w_eq w n hw
  have h2 : 2 ^ (w - 1) = 2 ^ w / 2 := by rcases hw with rfl | rfl | rfl <;> rfl
  refine ⟨he, fun i => h2 ▸ r2w_bucket_index w n _ hw hn he i, ?_⟩
  have hle : terminalIdx w + 1 ≤ 43 := by rcases hw with rfl | rfl | rfl <;> decide
  obtain ⟨_, _, _, hzero, _, _⟩ := r2w_bounds w n _ hw hn he
  rw [← sumD_extend w _ _ 43 hle (fun i h1 _ => hzero i h1)]
  exact (r2w_value w n _ hw (by omega) he).2.1

/-- C03: for each window `w ∈ {6,7,8}`, radix-2^w recoding followed by the bucket method returns `Σ sᵢ•Pᵢ`. -/
theorem pippenger_correct (w : Nat) (hw : w = 6 ∨ w = 7 ∨ w = 8) (ss : List Nat) (ps : List G)
    (hs : ∀ s ∈ ss, s < 2 ^ 255) :
    (GroupOps.allSome (ss.map (toRadix2w w))).bind (fun ds => (grp G).pippenger w ds ps) = some (msum ss ps) := by
  have ok := fun s h => radix2w_recoding w s hw (hs s h)
  have hint := toRadix2wSizeHint_eq hw
  rw [allSome_map ss _ _ fun s h => (ok s h).1, Option.bind_some,
    pippenger_digits w _ _ ps hint (by omega) (by omega) (List.forall_mem_map.2 fun s h => (ok s h).2.1),
    lsum_zip_scalars ss ps (radix2w w) (fun a => sumD w (dig a) (terminalIdx w + 1)) fun s h => (ok s h).2.2]

theorem pippengerWindow_valid (size : Nat) :
    GroupOps.pippengerWindow size = 6 ∨ GroupOps.pippengerWindow size = 7 ∨ GroupOps.pippengerWindow size = 8 := by
  unfold GroupOps.pippengerWindow
  split_ifs <;> simp

/-- `edwardsMultiscalarMulPippengerVartime`: whatever window the size selects -/
theorem pippengerVartime_correct (ss : List Nat) (ps : List G) (hs : ∀ s ∈ ss, s < 2 ^ 255) :
    (grp G).pippengerVartime ss ps = some (msum ss ps) :=
  pippenger_correct _ (pippengerWindow_valid ss.length) ss ps hs


/-- width-`w` NAF digits have `m = 2^(w-1)` (`naf_digits` of C17); a table of `n` odd multiples serves `m = 2n` -/
def NafDigits (m : Nat) (a : Array Int) : Prop := ∀ i, dig a i = 0 ∨ (dig a i % 2 = 1 ∧ (dig a i).natAbs < m)

/-- all that the invariants of the variable-time loops need of a term (table, digit array, point) -/
def NafTerm (tbl : Array G) (a : Array Int) (P : G) : Prop :=
  ∀ i t, (grp G).nafAdd tbl t (dig a i) = t + dig a i • P

theorem NafTerm.of_table {n : Nat} {tbl : Array G} {P : G} {a : Array Int} (ht : IsNafTable n tbl P)
    (ha : NafDigits (2 * n) a) : NafTerm tbl a P :=
  fun i t => nafAdd_correct n tbl P ht t _ (ha i)

theorem nafColumn_eq {α : Type} (l : List α) (tb : α → Array G) (dg : α → Array Int) (pt : α → G)
    (hl : ∀ x ∈ l, NafTerm (tb x) (dg x) (pt x)) (i : Nat) (t : G) :
    (grp G).nafColumn (l.map fun x => (tb x, dg x)) i t = t + lsum l (fun x => dig (dg x) i • pt x) := by
  unfold GroupOps.nafColumn
  rw [List.foldl_map]
  exact foldl_eq_add l _ _ (fun x hx => hl x hx i) t

/-- one doubling per position, written `2^(1·i)` as `horner 1` gives it -/
theorem strausNafLoop_eq {α : Type} (l : List α) (tb : α → Array G) (dg : α → Array Int) (pt : α → G)
    (hl : ∀ x ∈ l, NafTerm (tb x) (dg x) (pt x)) :
    ∀ i r, (grp G).strausNafLoop (l.map fun x => (tb x, dg x)) i r
      = ((2 : ℤ) ^ (1 * i)) • r + lsum l (fun x => sumD 1 (dig (dg x)) i • pt x) :=
  horner 1 _ (fun i => lsum l (fun x => dig (dg x) i • pt x)) _ (fun _ => rfl)
    (fun i r => by
      simp only [GroupOps.strausNafLoop, grp_dbl]
      rw [nafColumn_eq l tb dg pt hl, dbl_eq])
    (lsum_sumD_zero 1 l _ _) (lsum_sumD_succ 1 l _ _)

theorem strausNaf_digits (nafs : List (Array Int)) (points : List G) (hd : ∀ a ∈ nafs, NafDigits 16 a) :
    (grp G).strausNaf nafs points = lsum (nafs.zip points) (fun dp => sumD 1 (dig dp.1) 256 • dp.2) := by
  unfold GroupOps.strausNaf
  rw [zip_map_swap, strausNafLoop_eq (nafs.zip points) _ _ (·.2)
    (fun dp hdp => .of_table (mkNafTable_getD 8 dp.2) (hd dp.1 (List.of_mem_zip hdp).1))]
  simp

theorem strausNafExpandedLoop_eq {α α' : Type} (l : List α) (tb : α → Array G) (dg : α → Array Int) (pt : α → G)
    (l' : List α') (tb' : α' → Array G) (dg' : α' → Array Int) (pt' : α' → G)
    (hl : ∀ x ∈ l, NafTerm (tb x) (dg x) (pt x)) (hl' : ∀ x ∈ l', NafTerm (tb' x) (dg' x) (pt' x)) :
    ∀ i r, (grp G).strausNafExpandedLoop (l.map fun x => (tb x, dg x)) (l'.map fun x => (tb' x, dg' x)) i r
      = ((2 : ℤ) ^ (1 * i)) • r + (lsum l (fun x => sumD 1 (dig (dg x)) i • pt x)
          + lsum l' (fun x => sumD 1 (dig (dg' x)) i • pt' x)) :=
  horner 1 _ (fun i => lsum l (fun x => dig (dg x) i • pt x) + lsum l' (fun x => dig (dg' x) i • pt' x)) _
    (fun _ => rfl)
    (fun i r => by
      simp only [GroupOps.strausNafExpandedLoop, grp_dbl]
      rw [nafColumn_eq l' tb' dg' pt' hl', nafColumn_eq l tb dg pt hl, dbl_eq, add_assoc])
    (by rw [lsum_sumD_zero, lsum_sumD_zero, add_zero])
    (fun i => by rw [lsum_sumD_succ, lsum_sumD_succ]; module)

/-- a static term is a point with its precomputed table of odd multiples (`ht`) -/
theorem strausNafExpanded_digits (sn : List (Array Int)) (sps : List (G × Array G)) (dn : List (Array Int))
    (dps : List G) (ht : ∀ sp ∈ sps, IsNafTable 8 sp.2 sp.1)
    (hsn : ∀ a ∈ sn, NafDigits 16 a) (hdn : ∀ a ∈ dn, NafDigits 16 a) :
    (grp G).strausNafExpanded sn (sps.map (·.2)) dn dps
      = lsum (sn.zip (sps.map (·.1))) (fun dp => sumD 1 (dig dp.1) 256 • dp.2)
        + lsum (dn.zip dps) (fun dp => sumD 1 (dig dp.1) 256 • dp.2) := by
  unfold GroupOps.strausNafExpanded
  rw [zip_map_swap, zip_map_swap, strausNafExpandedLoop_eq (sn.zip sps) _ _ (·.2.1) (dn.zip dps) _ _ (·.2)
    (fun x hx => .of_table (ht x.2 (List.of_mem_zip hx).2) (hsn x.1 (List.of_mem_zip hx).1))
    (fun dp hdp => .of_table (mkNafTable_getD 8 dp.2) (hdn dp.1 (List.of_mem_zip hdp).1)),
    List.zip_map_right, lsum_map]
  simp

theorem naf_recoding (w n : Nat) (hw : 2 ≤ w ∧ w ≤ 8) (hn : n < 2 ^ 255) :
    nonAdjacentForm w n = some (naf w n) ∧ NafDigits (2 ^ (w - 1)) (naf w n)
      ∧ sumD 1 (dig (naf w n)) 256 = (n : ℤ) :=
  have he := nonAdjacentForm_eq w n hw
  ⟨he, naf_digits w n _ hw hn he, (naf_value w n _ hw hn he).2.1⟩

theorem naf5_recoding (n : Nat) (hn : n < 2 ^ 255) :
    nonAdjacentForm 5 n = some (naf 5 n) ∧ NafDigits 16 (naf 5 n) ∧ sumD 1 (dig (naf 5 n)) 256 = (n : ℤ) :=
  naf_recoding 5 n (by omega) hn

theorem naf8_recoding (n : Nat) (hn : n < 2 ^ 255) :
    nonAdjacentForm 8 n = some (naf 8 n) ∧ NafDigits 128 (naf 8 n) ∧ sumD 1 (dig (naf 8 n)) 256 = (n : ℤ) :=
  naf_recoding 8 n (by omega) hn

theorem naf5_list (ss : List Nat) (hs : ∀ s ∈ ss, s < 2 ^ 255) :
    GroupOps.allSome (ss.map (nonAdjacentForm 5)) = some (ss.map (naf 5)) ∧ (∀ a ∈ ss.map (naf 5), NafDigits 16 a) ∧
      ∀ ps : List G, lsum ((ss.map (naf 5)).zip ps) (fun dp => sumD 1 (dig dp.1) 256 • dp.2) = msum ss ps :=
  ⟨allSome_map ss _ _ fun s h => (naf5_recoding s (hs s h)).1, List.forall_mem_map.2 fun s h => (naf5_recoding s (hs s h)).2.1,
    fun ps => lsum_zip_scalars ss ps (naf 5) (fun a => sumD 1 (dig a) 256) fun s h => (naf5_recoding s (hs s h)).2.2⟩

/-- C03: `edwardsMultiscalarMulStrausVartime` (NAF-5 recoding, then the vartime Straus loop) returns `Σ sᵢ•Pᵢ`. -/
theorem strausNaf_correct (ss : List Nat) (ps : List G) (hs : ∀ s ∈ ss, s < 2 ^ 255) :
    (grp G).strausVartime ss ps = some (msum ss ps) := by
  obtain ⟨he, hd, hv⟩ := naf5_list (G := G) ss hs
  unfold GroupOps.strausVartime
  rw [he, Option.map_some, strausNaf_digits _ _ hd, hv]


/-- the loop of `edwardsDoubleScalarMulBasepointVartimeGenericInner` is the variable-time Straus loop on two terms -/
theorem doubleBaseLoop_eq (tA tB : Array G) (a b : Array Int) : ∀ i r,
    (grp G).doubleBaseLoop tA tB a b i r = (grp G).strausNafLoop [(tA, a), (tB, b)] i r
  | 0, _ => rfl
  | i + 1, _ => doubleBaseLoop_eq tA tB a b i _

theorem findStart_spec (a b : Array Int) : ∀ n,
    (∀ j, GroupOps.findStart a b n < j → j < n → dig a j = 0 ∧ dig b j = 0) ∧ GroupOps.findStart a b n ≤ n - 1
  | 0 => ⟨fun j _ h => by omega, Nat.le_refl _⟩
  | n + 1 => by
    unfold GroupOps.findStart
    split
    · exact ⟨fun j h1 h2 => by omega, Nat.le_refl _⟩
    · next h =>
      obtain ⟨h1, h2⟩ := findStart_spec a b n
      refine ⟨fun j hj1 hj2 => ?_, by omega⟩
      rcases Nat.lt_succ_iff_lt_or_eq.1 hj2 with hjn | rfl
      · exact h1 j hj1 hjn
      · simpa [dig, not_or] using h

/-- starting at the top non-zero position (`findStart`) loses nothing -/
theorem doubleBase_digits (tA tB : Array G) (A B : G) (a b : Array Int)
    (hA : IsNafTable 8 tA A) (hB : IsNafTable 64 tB B) (ha : NafDigits 16 a) (hb : NafDigits 128 b) :
    (grp G).doubleBase tA tB a b = sumD 1 (dig a) 256 • A + sumD 1 (dig b) 256 • B := by
  unfold GroupOps.doubleBase
  obtain ⟨hz, hle⟩ := findStart_spec a b 256
  have hl : ∀ x ∈ [(tA, a, A), (tB, b, B)], NafTerm x.1 x.2.1 x.2.2 :=
    List.forall_mem_cons.2 ⟨.of_table hA ha, List.forall_mem_singleton.2 (.of_table hB hb)⟩
  rw [doubleBaseLoop_eq]
  refine (strausNafLoop_eq _ _ _ _ hl _ _).trans ?_
  rw [sumD_extend 1 (dig a) (GroupOps.findStart a b 256 + 1) 256 (by omega) (fun i h1 h2 => (hz i (by omega) h2).1),
    sumD_extend 1 (dig b) (GroupOps.findStart a b 256 + 1) 256 (by omega) (fun i h1 h2 => (hz i (by omega) h2).2)]
  simp

/-- C03: `ExpandedDoubleScalarMulBasepointVartime(a, A, b) = a•A + b•B`, given the tables of odd multiples of `A` (8
    entries, precomputed) and `B` (64). -/
theorem expandedDoubleBase_correct (tB : Array G) (B : G) (hB : IsNafTable 64 tB B) (a b : Nat) (A : G) (tA : Array G)
    (hA : IsNafTable 8 tA A) (ha : a < 2 ^ 255) (hb : b < 2 ^ 255) :
    (grp G).expandedDoubleScalarMulBasepointVartime tB a tA b = some (a • A + b • B) := by
  unfold GroupOps.expandedDoubleScalarMulBasepointVartime
  obtain ⟨ea, da, va⟩ := naf5_recoding a ha
  obtain ⟨eb, db, vb⟩ := naf8_recoding b hb
  rw [ea, eb]
  simp only
  rw [doubleBase_digits tA tB A B _ _ hA hB da db, va, vb, natCast_zsmul, natCast_zsmul]

/-- C03: `DoubleScalarMulBasepointVartime(a, A, b) = a•A + b•B`: the expanded routine on the table built for `A`. -/
theorem doubleBase_correct (tB : Array G) (B : G) (hB : IsNafTable 64 tB B) (a b : Nat) (A : G)
    (ha : a < 2 ^ 255) (hb : b < 2 ^ 255) :
    (grp G).doubleScalarMulBasepointVartime tB a A b = some (a • A + b • B) :=
  expandedDoubleBase_correct tB B hB a b A _ (mkNafTable_getD 8 A) ha hb

/-- C03: `MultiscalarMulVartime = Σ sᵢ•Pᵢ` whatever the Straus/Pippenger threshold is (190 in the library) and
    whatever window the size selects: the thresholds only choose between equal functions. -/
theorem dispatch_correct (threshold : Nat) (ss : List Nat) (ps : List G) (hs : ∀ s ∈ ss, s < 2 ^ 255) :
    (grp G).multiscalarMulVartime threshold ss ps = some (msum ss ps) := by
  unfold GroupOps.multiscalarMulVartime
  split
  · exact strausNaf_correct ss ps hs
  · exact pippengerVartime_correct ss ps hs

theorem msum_append (ss ss' : List Nat) (ps ps' : List G) (h : ss.length = ps.length) :
    msum (ss ++ ss') (ps ++ ps') = msum ss ps + msum ss' ps' := by
  unfold msum
  rw [List.zip_append h, lsum_append]

/-- C03: `ExpandedMultiscalarMulVartime` (threshold test `>`; Pippenger on the plain points, expanded Straus on the
    precomputed tables) `= Σ static + Σ dynamic`, for every threshold. -/
theorem expandedDispatch_correct (threshold : Nat) (sss : List Nat) (sps : List (G × Array G)) (dss : List Nat)
    (dps : List G) (ht : ∀ sp ∈ sps, IsNafTable 8 sp.2 sp.1) (hlen : sss.length = sps.length)
    (hs : ∀ s ∈ sss, s < 2 ^ 255) (hd : ∀ s ∈ dss, s < 2 ^ 255) :
    (grp G).expandedMultiscalarMulVartime threshold sss sps dss dps
      = some (msum sss (sps.map (·.1)) + msum dss dps) := by
  unfold GroupOps.expandedMultiscalarMulVartime
  split
  · simp only
    rw [pippenger_correct _ (pippengerWindow_valid _) (sss ++ dss) _ (List.forall_mem_append.2 ⟨hs, hd⟩),
      msum_append _ _ _ _ (by simpa using hlen)]
  · obtain ⟨hes, hds, hvs⟩ := naf5_list (G := G) sss hs
    obtain ⟨hed, hdd, hvd⟩ := naf5_list (G := G) dss hd
    rw [hes, hed]
    simp only
    rw [strausNafExpanded_digits _ sps _ dps ht hds hdd, hvs, hvd]


def IsBasepointTable (tbls : Array (Array G)) (B : G) : Prop :=
  ∀ k, k < 32 → IsTable (tbls.getD k #[]) (((2 : ℤ) ^ (8 * k)) • B)

theorem basepointTableFrom_getD : ∀ n (p : G) k, k < n →
    ((grp G).basepointTableFrom n p).getD k #[] = (grp G).mkTable (((2 : ℤ) ^ (8 * k)) • p)
  | 0, _, _, h => by omega
  | n + 1, p, 0, _ => by simp [GroupOps.basepointTableFrom]
  | n + 1, p, k + 1, h => by
    simp only [GroupOps.basepointTableFrom, List.getD_cons_succ]
    rw [basepointTableFrom_getD n _ k (by omega), mulByPow2_eq, smul_smul, ← pow_add]
    congr 3

theorem isBasepointTable_mk (B : G) : IsBasepointTable ((grp G).mkBasepointTable B) B := by
  intro k hk
  unfold GroupOps.mkBasepointTable
  rw [toArray_getD _ k #[], basepointTableFrom_getD 32 B k hk]
  exact mkTable_getD _

/-- the positions ascend, so a pass from `k` adds a difference of two partial sums (radix 256 over the odd or the even
    half of the digit array) -/
theorem basepointPass_eq (tbls : Array (Array G)) (B : G) (a : Array Int) (off : Nat)
    (hT : IsBasepointTable tbls B) (hb : ∀ i, (dig a i).natAbs ≤ 8) :
    ∀ fuel k acc, k + fuel ≤ 32 → (grp G).basepointPass tbls a off fuel k acc
      = acc + (sumD 8 (fun m => dig a (2 * m + off)) (k + fuel) - sumD 8 (fun m => dig a (2 * m + off)) k) • B
  | 0, k, acc, _ => by simp [GroupOps.basepointPass]
  | fuel + 1, k, acc, h => by
    simp only [GroupOps.basepointPass, grp_add]
    rw [basepointPass_eq tbls B a off hT hb fuel (k + 1) _ (by omega),
      lookup_correct _ _ (hT k (by omega)) (a.getD (2 * k + off) 0) (hb _),
      show k + 1 + fuel = k + (fuel + 1) by omega,
      show sumD 8 (fun m => dig a (2 * m + off)) (k + 1)
        = sumD 8 (fun m => dig a (2 * m + off)) k + dig a (2 * k + off) * 2 ^ (8 * k) from rfl]
    show acc + dig a (2 * k + off) • _ + _ = _
    module

theorem sumD_interleave (f : Nat → ℤ) : ∀ c,
    sumD 8 (fun m => f (2 * m)) c + 16 * sumD 8 (fun m => f (2 * m + 1)) c = sumD 4 f (2 * c)
  | 0 => rfl
  | c + 1 => by
    show _ = sumD 4 f (2 * c) + f (2 * c) * 2 ^ (4 * (2 * c)) + f (2 * c + 1) * 2 ^ (4 * (2 * c + 1))
    rw [← sumD_interleave f c, show 4 * (2 * c) = 8 * c by omega, show 4 * (2 * c + 1) = 8 * c + 4 by omega, pow_add]
    simp only [sumD]
    ring

theorem basepointMul_digits (tbls : Array (Array G)) (B : G) (a : Array Int) (hT : IsBasepointTable tbls B)
    (hb : ∀ i, (dig a i).natAbs ≤ 8) :
    (grp G).basepointMul tbls a = sumD 4 (dig a) 64 • B := by
  have pass : ∀ off acc, (grp G).basepointPass tbls a off 32 0 acc
      = acc + sumD 8 (fun m => dig a (2 * m + off)) 32 • B := fun off acc => by
    rw [basepointPass_eq tbls B a off hT hb 32 0 acc (Nat.le_refl _), Nat.zero_add]
    exact congrArg (fun s : ℤ => acc + s • B) (sub_zero _)
  unfold GroupOps.basepointMul
  rw [pass, mulByPow2_eq, pass, grp_zero, ← sumD_interleave (dig a) 32]
  module

/-- C03: `MulBasepoint(table, n) = n•B` for every `n < 2^255`. -/
theorem basepointMul_correct (tbls : Array (Array G)) (B : G) (hT : IsBasepointTable tbls B) (n : Nat)
    (hn : n < 2 ^ 255) : (grp G).mulBasepoint tbls n = n • B := by
  unfold GroupOps.mulBasepoint
  rw [basepointMul_digits tbls B _ hT (r16_abs_le_8 n hn), (r16_value n (by omega)).2.1, natCast_zsmul]


/-- `MulBasepoint` with the table built by `newEdwardsBasepointTableGeneric(B)` -/
theorem mulBasepoint_mk_correct (B : G) (n : Nat) (hn : n < 2 ^ 255) :
    (grp G).mulBasepoint ((grp G).mkBasepointTable B) n = n • B :=
  basepointMul_correct _ B (isBasepointTable_mk B) n hn

/-- `DoubleScalarMulBasepointVartime` with the 64-entry table built by `newAffineNielsPointNafLookupTable(B)` -/
theorem doubleBase_mk_correct (B : G) (a b : Nat) (A : G) (ha : a < 2 ^ 255) (hb : b < 2 ^ 255) :
    (grp G).doubleScalarMulBasepointVartime ((grp G).mkNafTable 64 B) a A b = some (a • A + b • B) :=
  doubleBase_correct _ B (mkNafTable_getD 64 B) a b A ha hb

/-- `ExpandedDoubleScalarMulBasepointVartime(a, NewExpandedEdwardsPoint(A), b)` -/
theorem expandedDoubleBase_mk_correct (B : G) (a b : Nat) (A : G) (ha : a < 2 ^ 255) (hb : b < 2 ^ 255) :
    (grp G).expandedDoubleScalarMulBasepointVartime ((grp G).mkNafTable 64 B) a ((grp G).expand A).2 b
      = some (a • A + b • B) :=
  expandedDoubleBase_correct _ B (mkNafTable_getD 64 B) a b A _ (mkNafTable_getD 8 A) ha hb

/-- `ExpandedMultiscalarMulVartime` on points expanded by `NewExpandedEdwardsPoint` -/
theorem expandedDispatch_mk_correct (threshold : Nat) (sss : List Nat) (sps : List G) (dss : List Nat) (dps : List G)
    (hlen : sss.length = sps.length) (hs : ∀ s ∈ sss, s < 2 ^ 255) (hd : ∀ s ∈ dss, s < 2 ^ 255) :
    (grp G).expandedMultiscalarMulVartime threshold sss (sps.map (grp G).expand) dss dps
      = some (msum sss sps + msum dss dps) := by
  rw [expandedDispatch_correct threshold sss (sps.map (grp G).expand) dss dps
    (List.forall_mem_map.2 fun P _ => mkNafTable_getD 8 P)
    (by simpa using hlen) hs hd]
  simp [GroupOps.expand, Function.comp_def]

/-! The hypotheses are satisfiable: G = ℤ, P = 1, so `n•P = n`. -/

section examples

example : ∀ j, j < 8 → (#[1, 2, 3, 4, 5, 6, 7, 8] : Array ℤ).getD j 0 = ((j : ℤ) + 1) • (1 : ℤ) := by
  intro j hj; interval_cases j <;> rfl

example : (grp ℤ).lookup #[1, 2, 3, 4, 5, 6, 7, 8] (-5) = (-5 : ℤ) • (1 : ℤ) :=
  lookup_correct _ 1 (by intro j hj; interval_cases j <;> rfl) (-5) (by decide)

example (x : ℤ) (hx : -8 ≤ x ∧ x ≤ 8) : (grp ℤ).lookup ((grp ℤ).mkTable 1) x = x • (1 : ℤ) :=
  lookup_mkTable 1 x (by omega)

example : (grp ℤ).nafAdd #[1, 3, 5, 7, 9, 11, 13, 15] 100 (-13) = 100 + (-13 : ℤ) • (1 : ℤ) :=
  nafAdd_correct 8 _ 1 (by intro j hj; interval_cases j <;> rfl) 100 (-13) (Or.inr ⟨by decide, by decide⟩)

example : (grp ℤ).nafAdd ((grp ℤ).mkNafTable 64 1) 0 127 = 0 + (127 : ℤ) • (1 : ℤ) :=
  nafAdd_correct 64 _ 1 (mkNafTable_getD 64 1) 0 127 (Or.inr ⟨by decide, by decide⟩)

example : (grp ℤ).nafLookup ((grp ℤ).mkNafTable 8 1) 15 = ((15 : Nat) : ℤ) • (1 : ℤ) :=
  nafLookup_correct 8 _ 1 (mkNafTable_getD 8 1) 15 (by decide) (by decide)

example : (grp ℤ).mulRadix16 1 (toRadix16 (2 ^ 255 - 1)) = (2 ^ 255 - 1) • (1 : ℤ) :=
  mulRadix16_correct 1 _ (by norm_num)

example : (grp ℤ).mul 1 (2 ^ 252 + 27742317777372353535851937790883648493) = (2 ^ 252 + 27742317777372353535851937790883648493) • (1 : ℤ) :=
  mul_correct 1 _ (by norm_num)

example : (grp ℤ).mulBasepoint ((grp ℤ).mkBasepointTable 1) (2 ^ 255 - 19) = (2 ^ 255 - 19) • (1 : ℤ) :=
  mulBasepoint_mk_correct 1 _ (by norm_num)

example : (grp ℤ).multiscalarMul [0, 1, 2 ^ 255 - 1] [5, 7, 11] = msum [0, 1, 2 ^ 255 - 1] [(5 : ℤ), 7, 11] :=
  strausCT_correct _ _ (by decide)

example : (grp ℤ).multiscalarMul [] [] = msum [] ([] : List ℤ) := strausCT_correct _ _ (by simp)

example : (grp ℤ).strausVartime [2 ^ 255 - 1, 8] [3, 1] = some (msum [2 ^ 255 - 1, 8] [(3 : ℤ), 1]) :=
  strausNaf_correct _ _ (by decide)

example : (grp ℤ).doubleScalarMulBasepointVartime ((grp ℤ).mkNafTable 64 1) (2 ^ 255 - 1) 7 0
    = some ((2 ^ 255 - 1) • (7 : ℤ) + 0 • (1 : ℤ)) :=
  doubleBase_mk_correct 1 _ _ 7 (by norm_num) (by norm_num)

example : (grp ℤ).pippengerVartime [2 ^ 255 - 1, 0, 12345] [1, 2, 3] = some (msum [2 ^ 255 - 1, 0, 12345] [(1 : ℤ), 2, 3]) :=
  pippengerVartime_correct _ _ (by decide)

example (w : Nat) (hw : w = 6 ∨ w = 7 ∨ w = 8) :
    (GroupOps.allSome (([] : List Nat).map (toRadix2w w))).bind (fun ds => (grp ℤ).pippenger w ds []) = some 0 :=
  pippenger_correct w hw [] [] (by simp)

example (w : Nat) (hw : w = 6 ∨ w = 7 ∨ w = 8) :
    (GroupOps.allSome ([2 ^ 255 - 1].map (toRadix2w w))).bind (fun ds => (grp ℤ).pippenger w ds [1])
      = some (msum [2 ^ 255 - 1] [(1 : ℤ)]) :=
  pippenger_correct w hw _ _ (by decide)

example (thr : Nat) : (grp ℤ).multiscalarMulVartime thr [5, 2 ^ 254] [1, -1] = some (msum [5, 2 ^ 254] [(1 : ℤ), -1]) :=
  dispatch_correct thr _ _ (by decide)

example : (grp ℤ).multiscalarMulVartime GroupOps.mulPippengerThreshold [] [] = some (0 : ℤ) :=
  dispatch_correct _ [] [] (by simp)

example (thr : Nat) : (grp ℤ).expandedMultiscalarMulVartime thr [3] ([10].map (grp ℤ).expand) [4, 5] [100, 1000]
    = some (msum [3] [(10 : ℤ)] + msum [4, 5] [100, 1000]) :=
  expandedDispatch_mk_correct thr _ _ _ _ rfl (by decide)
    (by decide)

/-- the models are executable: evaluation agrees with the theorems -/
example : (grp ℤ).mul 3 1000003 = 3000009 := by decide +kernel
example : (grp ℤ).mulBasepoint ((grp ℤ).mkBasepointTable 1) (2 ^ 255 - 19) = 2 ^ 255 - 19 := by decide +kernel
example : (grp ℤ).multiscalarMul [2 ^ 255 - 1] [2] = 2 * (2 ^ 255 - 1) := by decide +kernel
example : (grp ℤ).multiscalarMulVartime 190 [2 ^ 255 - 1] [2] = some (2 * (2 ^ 255 - 1)) := by decide +kernel
example : (grp ℤ).multiscalarMulVartime 0 [7, 2 ^ 255 - 1] [1, 2] = some (7 + 2 * (2 ^ 255 - 1)) := by decide +kernel
example : (grp ℤ).doubleScalarMulBasepointVartime ((grp ℤ).mkNafTable 64 1) 9 5 (2 ^ 255 - 1)
    = some (45 + (2 ^ 255 - 1)) := by decide +kernel

end examples

#print axioms lookup_correct
#print axioms lookup_mkTable
#print axioms nafLookup_correct
#print axioms nafAdd_correct
#print axioms mkTable_getD
#print axioms mkNafTable_getD
#print axioms isBasepointTable_mk
#print axioms mulRadix16_digits
#print axioms mulRadix16_correct
#print axioms mul_correct
#print axioms basepointMul_digits
#print axioms basepointMul_correct
#print axioms mulBasepoint_mk_correct
#print axioms strausCT_digits
#print axioms strausCT_correct
#print axioms strausNaf_digits
#print axioms strausNaf_correct
#print axioms strausNafExpanded_digits
#print axioms doubleBase_digits
#print axioms doubleBase_correct
#print axioms doubleBase_mk_correct
#print axioms expandedDoubleBase_correct
#print axioms expandedDoubleBase_mk_correct
#print axioms bucketSumLoop_eq
#print axioms bucketSum_eq
#print axioms bucketStep_bw
#print axioms column_eq
#print axioms pippenger_digits
#print axioms pippenger_correct
#print axioms pippengerVartime_correct
#print axioms dispatch_correct
#print axioms expandedDispatch_correct
#print axioms expandedDispatch_mk_correct

end Voi.Props.C03

/-
C11 (ristretto255 encoding, RFC 9496 §4.3.1 / §4.3.2): theorems about the executable Spec `Ristretto.decode` /
`Ristretto.encode` of Voi/Spec/Ristretto.lean — the functions the Go code (`RistrettoPoint.SetCompressed`,
`CompressedRistretto.SetRistrettoPoint`) is compared with (stream T1) and, as regenerated, proved equal to
(`FL/Ristretto.RistrettoDecode_eq`, `RistrettoEncode_eq`).  Primality of p is `Voi.Proofs.fact_p_prime`
(Voi/Proofs/Primes.lean).

Stated only (`def …_statement : Prop`; they need the analysis of the 4-torsion action on the Jacobi-quartic
parametrisation, on top of the Edwards group law of Proofs/SpecBridge): `encode_coset_invariant_statement`,
`decode_encode_statement`, `equal_iff_sameCoset_statement`.
-/
import Voi.Proofs.SqrtRatio
import Voi.Props.BytesLemmas
import Voi.Spec.Ristretto
namespace Voi.Props.C11
open Voi Voi.Spec Voi.Spec.Ristretto Voi.Proofs.SqrtRatio Voi.Props.Bytes
open Voi.Props.C07 hiding toZ
/-- Mathlib has a root-level `toZ` (order theory); here `toZ` always means the cast ℕ → ZMod p -/
local notation "toZ" => Voi.Props.C07.toZ

/-! the intermediate values of `Ristretto.decode` (RFC 9496 §4.3.1), as functions of `s` -/

def dU1 (s : Nat) : Nat := Fp.sub 1 (Fp.sq s)
def dU2 (s : Nat) : Nat := Fp.add 1 (Fp.sq s)
def dV (s : Nat) : Nat := Fp.sub (Fp.neg (Fp.mul D (Fp.sq (dU1 s)))) (Fp.sq (dU2 s))
/-- `(was_square, invsqrt)` -/
def dSR (s : Nat) : Bool × Nat := Fp.sqrtRatioM1 1 (Fp.mul (dV s) (Fp.sq (dU2 s)))
def dDenX (s : Nat) : Nat := Fp.mul (dSR s).2 (dU2 s)
def dDenY (s : Nat) : Nat := Fp.mul (Fp.mul (dSR s).2 (dDenX s)) (dV s)
def dX (s : Nat) : Nat := Fp.abs (Fp.mul (Fp.mul 2 s) (dDenX s))
def dY (s : Nat) : Nat := Fp.mul (dU1 s) (dDenY s)
def dT (s : Nat) : Nat := Fp.mul (dX s) (dY s)

/-- the point computed in step 2 of `Ristretto.decode`; `decodeNat` is its steps 2–3 on the integer `s` -/
def decPt (s : Nat) : Ext := ⟨dX s, dY s, 1, dT s⟩
def decodeNat (s : Nat) : Option Ext :=
  if (!(dSR s).1 || Fp.isNeg (dT s) || dY s == 0) = true then none
  else some (decPt s)

theorem decode_eq (b : Bytes) : decode b =
    if b.size ≠ 32 then none else if leNat b ≥ p then none else
    if Fp.isNeg (leNat b) = true then none else decodeNat (leNat b) := by
  unfold decode
  simp only []
  rfl

/-! the intermediate values of `Ristretto.encode` -/

def eU1 (P : Ext) : Nat := Fp.mul (Fp.add P.Z P.Y) (Fp.sub P.Z P.Y)
def eU2 (P : Ext) : Nat := Fp.mul P.X P.Y
def eSR (P : Ext) : Bool × Nat := Fp.sqrtRatioM1 1 (Fp.mul (eU1 P) (Fp.sq (eU2 P)))
def eDen1 (P : Ext) : Nat := Fp.mul (eSR P).2 (eU1 P)
def eDen2 (P : Ext) : Nat := Fp.mul (eSR P).2 (eU2 P)
def eZinv (P : Ext) : Nat := Fp.mul (Fp.mul (eDen1 P) (eDen2 P)) P.T

/-- Encode when neither the rotation nor the y-negation is taken -/
theorem encode_noRotate (P : Ext) (h1 : Fp.isNeg (Fp.mul P.T (eZinv P)) = false)
    (h2 : Fp.isNeg (Fp.mul P.X (eZinv P)) = false) :
    encode P = natLE (Fp.abs (Fp.mul (eDen2 P) (Fp.sub P.Z P.Y))) 32 := by
  unfold encode
  simp only []
  unfold isNegative ctAbs Ristretto.sqrtRatioM1
  unfold eZinv eDen1 eDen2 eSR eU1 eU2 at *
  simp only [h1, Bool.false_eq_true, if_false, h2]

/-- C11: Decode accepts exactly under the conditions of RFC 9496 §4.3.1 (length, canonical, non-negative, was_square,
t non-negative, y ≠ 0). -/
theorem decode_eq_some_iff (b : Bytes) (P : Ext) :
    decode b = some P ↔ b.size = 32 ∧ leNat b < p ∧ Fp.isNeg (leNat b) = false ∧
      (dSR (leNat b)).1 = true ∧ Fp.isNeg (dT (leNat b)) = false ∧ dY (leNat b) ≠ 0 ∧ P = decPt (leNat b) := by
  simp only [decode_eq, decodeNat, Option.ite_none_left_eq_some, Option.some.injEq, ne_eq, not_not, ge_iff_le, not_le,
    Bool.not_eq_true, Bool.or_eq_false_iff, Bool.not_eq_false', beq_eq_false_iff_ne, and_assoc, eq_comm (a := decPt (leNat b))]

theorem decode_size {b : Bytes} {P : Ext} (h : decode b = some P) : b.size = 32 :=
  ((decode_eq_some_iff b P).1 h).1

theorem decode_accepts_iff (b : Bytes) :
    (decode b).isSome = true ↔
      b.size = 32 ∧ leNat b < p ∧ Fp.isNeg (leNat b) = false ∧
      (dSR (leNat b)).1 = true ∧ Fp.isNeg (dT (leNat b)) = false ∧ dY (leNat b) ≠ 0 := by
  simp only [Option.isSome_iff_exists, decode_eq_some_iff, exists_and_left, exists_eq, and_true]

theorem decode_canonical {b : Bytes} {P : Ext} (h : decode b = some P) :
    leNat b < p ∧ leNat b % 2 = 0 := by
  obtain ⟨_, h2, h3, _⟩ := (decode_eq_some_iff b P).1 h
  refine ⟨h2, ?_⟩
  unfold Fp.isNeg at h3
  rw [Nat.mod_eq_of_lt h2] at h3
  simpa using h3

theorem toZ_dU1 (s : Nat) : toZ (dU1 s) = 1 - toZ s ^ 2 := by
  unfold dU1; rw [toZ_sub, toZ_sq, toZ_one]; ring
theorem toZ_dU2 (s : Nat) : toZ (dU2 s) = 1 + toZ s ^ 2 := by
  unfold dU2; rw [toZ_add, toZ_sq, toZ_one]; ring
theorem toZ_dV (s : Nat) : toZ (dV s) = -(toZ D * toZ (dU1 s) ^ 2) - toZ (dU2 s) ^ 2 := by
  unfold dV; rw [toZ_sub, toZ_neg, toZ_mul, toZ_sq, toZ_sq]; ring

theorem D_eq_d : D = Fp.d := d_val.symm

/-- The map from the Jacobi quartic lands on the curve: with `u₂² − u₁² = 4 s²` (`u₁ = 1 − s²`, `u₂ = 1 + s²`) and
`v = −d u₁² − u₂²`, the point with `y = u₁/u₂`, `x² = 4 s²/v` satisfies `−x² + y² = 1 + d x² y²`. -/
theorem curve_alg {K : Type} [Field K] {D U1 U2 V Q X Y : K} (hQ : U2 ^ 2 - U1 ^ 2 = Q)
    (hV : V = -(D * U1 ^ 2) - U2 ^ 2) (hne : V * U2 ^ 2 ≠ 0) (hX : X ^ 2 * V = Q) (hY : Y * U2 = U1) :
    -X ^ 2 + Y ^ 2 = 1 + D * (X ^ 2 * Y ^ 2) := by
  refine sub_eq_zero.1 ((mul_eq_zero.1 (?_ : V * U2 ^ 2 * _ = 0)).resolve_left hne)
  subst hV hQ
  linear_combination (-U2 ^ 2 - D * Y ^ 2 * U2 ^ 2) * hX +
    ((-(D * U1 ^ 2) - U2 ^ 2) - D * (U2 ^ 2 - U1 ^ 2)) * (Y * U2 + U1) * hY

/-- `s = 0` (the identity element), which `roundtrip_alg` excludes -/
theorem encode_decPt_zero : encode (decPt 0) = natLE 0 32 := by decide +kernel

/-- what Decode establishes when `was_square` holds: `v u₂² J² = 1` for the inverse square root `J`, hence
`y u₂ = u₁` and `x² v = 4 s²`; and `t = x y` -/
theorem dec_facts {s : Nat} (hok : (dSR s).1 = true) :
    toZ (dV s) * toZ (dU2 s) ^ 2 * toZ (dSR s).2 ^ 2 = 1 ∧ toZ (dY s) * toZ (dU2 s) = toZ (dU1 s) ∧
    toZ (dX s) ^ 2 * toZ (dV s) = 4 * toZ s ^ 2 ∧ toZ (dT s) = toZ (dX s) * toZ (dY s) := by
  have hJ : toZ (dV s) * toZ (dU2 s) ^ 2 * toZ (dSR s).2 ^ 2 = 1 := by
    have := sqrtRatioM1_ok (u := 1) (v := Fp.mul (dV s) (Fp.sq (dU2 s))) hok
    simp only [fp] at this
    unfold dSR; linear_combination this
  refine ⟨hJ, ?_, ?_, toZ_mul _ _⟩
  · unfold dY dDenY dDenX
    simp only [fp]
    linear_combination toZ (dU1 s) * hJ
  · unfold dX dDenX
    simp only [toZ_abs_sq, fp]
    linear_combination 4 * toZ s ^ 2 * hJ

/-- C11: the decoded representation is a curve point (x : y : 1 : x y) with reduced coordinates and non-negative x. -/
theorem decode_on_curve {b : Bytes} {P : Ext} (h : decode b = some P) :
    P.X < p ∧ P.Y < p ∧ P.T < p ∧ P.Z = 1 ∧ Fp.isNeg P.X = false ∧ Fp.isNeg P.T = false ∧
    P.Y ≠ 0 ∧ toZ P.T = toZ P.X * toZ P.Y ∧
    -toZ P.X ^ 2 + toZ P.Y ^ 2 = 1 + toZ Fp.d * (toZ P.X ^ 2 * toZ P.Y ^ 2) := by
  obtain ⟨_, _, _, hok, hT, hY, rfl⟩ := (decode_eq_some_iff b P).1 h
  obtain ⟨hJ, hYU, hX, hTT⟩ := dec_facts hok
  -- unfolding `decPt` here keeps the unifier from searching through it for every component
  simp only [decPt]
  refine ⟨abs_lt _, mul_lt _ _, mul_lt _ _, trivial, abs_nonneg _, hT, hY, hTT, ?_⟩
  refine curve_alg ?_ (D_eq_d ▸ toZ_dV _) ?_ hX hYU
  · rw [toZ_dU1, toZ_dU2]; ring
  · intro h0; rw [h0, zero_mul] at hJ; exact zero_ne_one hJ

/-- The algebra of the round trip.  For `y = (1 − s²)/(1 + s²)` the argument `w = (1 + y)(1 − y)(x y)²` of Encode's inverse
square root is the non-zero square `(2 s x y / (1 + s²))²`, and with `w j² = 1` the value `j · x y · (1 − y)` that Encode returns
(up to sign) has the square `(1 − y)/(1 + y) = s²`. -/
theorem roundtrip_alg {K : Type} [Field K] {S X Y : K} (h2 : (2 : K) ≠ 0) (hS : S ≠ 0) (hX : X ≠ 0) (hY : Y ≠ 0)
    (hU2 : 1 + S ^ 2 ≠ 0) (hYU : Y * (1 + S ^ 2) = 1 - S ^ 2) {W : K} (hW : W = (1 + Y) * (1 - Y) * (X * Y) ^ 2) :
    W ≠ 0 ∧ IsSquare (1 / W) ∧ ∀ J, (1 + Y) * (1 - Y) * (X * Y) ^ 2 * J ^ 2 = 1 → (J * (X * Y) * (1 - Y)) ^ 2 = S ^ 2 := by
  have hden : 2 * S * X * Y ≠ 0 := mul_ne_zero (mul_ne_zero (mul_ne_zero h2 hS) hX) hY
  have hWU : W * (1 + S ^ 2) ^ 2 = (2 * S * X * Y) ^ 2 := by
    rw [hW]; linear_combination (-(X ^ 2 * Y ^ 2) * (Y * (1 + S ^ 2) + (1 - S ^ 2))) * hYU
  have hWne : W ≠ 0 := fun h => pow_ne_zero 2 hden (by rw [← hWU, h, zero_mul])
  refine ⟨hWne, ⟨(1 + S ^ 2) / (2 * S * X * Y), ?_⟩, fun J hJ => ?_⟩
  · rw [div_mul_div_comm, div_eq_div_iff hWne (mul_ne_zero hden hden)]
    linear_combination -hWU
  · have hk : (1 - Y) = S ^ 2 * (1 + Y) := mul_right_cancel₀ hU2 (by linear_combination (-(1 + S ^ 2)) * hYU)
    have h1Y : 1 + Y ≠ 0 := fun h => hWne (by rw [hW, h]; ring)
    apply mul_right_cancel₀ h1Y
    linear_combination (1 - Y) * hJ + hk

theorem encode_decodeNat {s : Nat} (hs : s < p) (hneg : Fp.isNeg s = false) (h0 : s ≠ 0)
    (hok : (dSR s).1 = true) (hT : Fp.isNeg (dT s) = false) (hY : dY s ≠ 0) :
    encode (decPt s) = natLE s 32 := by
  obtain ⟨hJ, hYU, hX, hTT⟩ := dec_facts hok
  rw [toZ_dU1, toZ_dU2] at hYU
  have hS : toZ s ≠ 0 := fun h => h0 (eq_zero_of_toZ hs h)
  have hYne : toZ (dY s) ≠ 0 := fun h => hY (eq_zero_of_toZ (mul_lt _ _) h)
  have hU2 : 1 + toZ s ^ 2 ≠ 0 := fun h => one_ne_zero (α := ZMod p) (by rw [← hJ, toZ_dU2, h]; ring)
  have hXne : toZ (dX s) ≠ 0 := fun h =>
    pow_ne_zero 2 (mul_ne_zero two_ne_zero' hS) (by rw [h] at hX; linear_combination -hX)
  -- the argument of Encode's inverse square root
  have hW : toZ (Fp.mul (eU1 (decPt s)) (Fp.sq (eU2 (decPt s)))) =
      (1 + toZ (dY s)) * (1 - toZ (dY s)) * (toZ (dX s) * toZ (dY s)) ^ 2 := by
    simp only [eU1, eU2, decPt, fp]; ring
  obtain ⟨hWne, hsq, hroot⟩ := roundtrip_alg two_ne_zero' hS hXne hYne hU2 hYU hW
  have hok' : (eSR (decPt s)).1 = true := (sqrtRatioM1_ok_iff hWne).2 (by rw [toZ_one]; exact hsq)
  have hJ' : toZ _ * toZ (eSR (decPt s)).2 ^ 2 = 1 := (sqrtRatioM1_ok hok').trans toZ_one
  rw [hW] at hJ'
  generalize hJ'd : toZ (eSR (decPt s)).2 = J' at hJ'
  -- z_inv = 1, so neither the rotation nor the negation of y is taken
  have hz : eZinv (decPt s) = 1 := by
    refine toZ_inj (mul_lt _ _) (by decide) ?_
    unfold eZinv eDen1 eDen2
    simp only [fp, hJ'd]
    simp only [eU1, eU2, decPt, fp, hTT]
    linear_combination hJ'
  have hr1 : Fp.isNeg (Fp.mul (decPt s).T (eZinv (decPt s))) = false := by
    rw [hz]; exact (fp_mul_one (mul_lt _ _ : dT s < p)).symm ▸ hT
  have hr2 : Fp.isNeg (Fp.mul (decPt s).X (eZinv (decPt s))) = false := by
    rw [hz]; exact (fp_mul_one (abs_lt _ : dX s < p)).symm ▸ abs_nonneg _
  rw [encode_noRotate _ hr1 hr2]
  -- |den2 (1 − y)| = s because its square is s²
  refine congrArg (fun n => natLE n 32) (nonneg_root_unique (abs_lt _) hs (abs_nonneg _) hneg ?_)
  rw [toZ_abs_sq, ← hroot J' hJ']
  unfold eDen2
  simp only [fp, hJ'd]
  simp only [eU2, decPt, fp]

/-- C11, the round trip of RFC 9496: re-encoding the representation decoded from an accepted string returns that
string. -/
theorem encode_decode {b : Bytes} {P : Ext} (h : decode b = some P) : encode P = b := by
  obtain ⟨hs, hlt, hneg, hok, hT, hY, rfl⟩ := (decode_eq_some_iff b P).1 h
  refine Eq.trans ?_ (natLE_leNat_of_size hs)
  by_cases h0 : leNat b = 0
  · rw [h0]; exact encode_decPt_zero
  · exact encode_decodeNat hlt hneg h0 hok hT hY

theorem decode_injective {b b' : Bytes} {P : Ext} (h : decode b = some P) (h' : decode b' = some P) :
    b = b' := by
  rw [← encode_decode h, ← encode_decode h']

/-- (X : Y : Z : T) with Z ≠ 0, X Y = Z T, on the curve -/
def ValidExt (P : Ext) : Prop :=
  toZ P.Z ≠ 0 ∧ toZ P.X * toZ P.Y = toZ P.Z * toZ P.T ∧
  -toZ P.X ^ 2 * toZ P.Z ^ 2 + toZ P.Y ^ 2 * toZ P.Z ^ 2 =
    toZ P.Z ^ 4 + toZ Fp.d * (toZ P.X ^ 2 * toZ P.Y ^ 2)

/-- membership in the even subgroup 2E (the set of ristretto255 internal representations) -/
def InEven (P : Ext) : Prop := ∃ Q : Ext, ValidExt Q ∧ Ext.eq P (Ext.dbl Q) = true ∧ ValidExt P

/-- all four coset representatives P + E[4] (and every projective scaling) encode identically -/
def encode_coset_invariant_statement : Prop :=
  ∀ (P Q : Ext), InEven P → InEven Q → sameCoset P Q = true → encode P = encode Q

def decode_encode_statement : Prop :=
  ∀ P : Ext, InEven P → ∃ Q : Ext, decode (encode P) = some Q ∧ equal P Q = true

def equal_iff_sameCoset_statement : Prop :=
  ∀ (P Q : Ext), InEven P → InEven Q → (equal P Q = true ↔ sameCoset P Q = true)

/-- RFC 9496 A.1: the generator -/
def encG : Bytes := ofHex! "e2f2ae0a6abc4e71a884a961c500515f58e30b6aa582dd8db6a65945e08d2d76"

example : (decode encG).isSome = true := by decide +kernel
example : (decode encG).map encode = some encG := by decide +kernel
example : leNat encG < p ∧ leNat encG % 2 = 0 := by decide +kernel
example : (decode (natLE 0 32)).map encode = some (natLE 0 32) := by decide +kernel
example : decPt 0 = ⟨0, 1, 1, 0⟩ := by
  have hx : dX 0 = 0 := by decide +kernel
  have hy : dY 0 = 1 := by decide +kernel
  have ht : dT 0 = 0 := by decide +kernel
  unfold decPt; rw [hx, hy, ht]
-- RFC 9496 A.2: non-canonical (s = p), negative (s = 1), non-square, negative t
example : decode (ofHex! "edffffffffffffffffffffffffffffffffffffffffffffffffffffffffffff7f") = none := by
  decide +kernel
example : decode (natLE 1 32) = none := by decide +kernel
example : decode (ofHex! "26948d35ca62e643e26a83177332e6b6afeb9d08e4268b650f1f5bbd8d81d371") = none := by
  decide +kernel
example : decode (ofHex! "3eb858e78f5a7254d8c9731174a94f76755fd3941c0ac93735c07ba14579630e") = none := by
  decide +kernel
example : decode (natLE 1 31) = none ∧ decode (natLE 0 33) = none := by decide +kernel

#print axioms decode_size
#print axioms decode_canonical
#print axioms decode_accepts_iff
#print axioms decode_on_curve
#print axioms encode_decode
#print axioms decode_injective

end Voi.Props.C11

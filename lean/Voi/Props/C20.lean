/-
C20, "Precomputed constants and tables equal their definitions in every backend": the table theorems; the constants
are in the imported modules.  Every theorem is a closed statement about the literals regenerated from the working tree
by `bin/regen consts` (`go2ir -globals`), proved by kernel evaluation.  Equalities are between fully reduced values, so
they also say that every stored field element is canonical.  What the entries are is proved of the 64-bit literals
and carried over to the 32-bit ones by `TablesAgree.tables_enc_agree`.

The tables that exist only at run time (the vector backend's tables, and the serial tables as the running binary
holds them in each of the four build configurations) are covered by correspondence stream K0
(`go/harness/s_consts.go`, `Voi.Drv.Consts`), exhaustively.
-/
import Voi.Props.C20.Field
import Voi.Props.C20.Scalar
import Voi.Props.C20.Points
import Voi.Props.C20.TablesAgree
import Voi.Props.C20.Base
import Voi.Props.C20.OddB
import Voi.Props.C20.OddBShl0
import Voi.Props.C20.OddBShl1
namespace Voi.Props.C20
open Voi Voi.Spec Voi.Spec.Limbs Voi.Gen.Consts

theorem base_table_u64 : ∀ i < 32, ∀ j < 8,
    nielsAt (fes51 CurveU64.ED25519_BASEPOINT_TABLE) (8 * i + j) = ANiels.ofPt (Pt.smul ((j + 1) * 256 ^ i) Pt.B) := by
  intro i hi j hj
  rw [Points.B_eq]
  exact colOK_sound (Nat.succ_ne_zero j) (base_table_cols j hj) i hi

theorem base_table_u32 : ∀ i < 32, ∀ j < 8,
    nielsAt (fes2625 CurveU32.ED25519_BASEPOINT_TABLE) (8 * i + j) = ANiels.ofPt (Pt.smul ((j + 1) * 256 ^ i) Pt.B) := by
  rw [TablesAgree.tables_enc_agree.1]; exact base_table_u64

theorem ristretto_base_table :
    (∀ i < 32, ∀ j < 8, nielsAt (fes51 CurveU64.RISTRETTO_BASEPOINT_TABLE) (8 * i + j) =
      ANiels.ofPt (Pt.smul ((j + 1) * 256 ^ i) Pt.B)) ∧
    (∀ i < 32, ∀ j < 8, nielsAt (fes2625 CurveU32.RISTRETTO_BASEPOINT_TABLE) (8 * i + j) =
      ANiels.ofPt (Pt.smul ((j + 1) * 256 ^ i) Pt.B)) := by
  rw [TablesAgree.aliases.2.1, TablesAgree.aliases.2.2.2]; exact ⟨base_table_u64, base_table_u32⟩

theorem odd_multiples_of_B_u64 : ∀ j < 64,
    nielsAt (fes51 CurveU64.constAFFINE_ODD_MULTIPLES_OF_BASEPOINT) j = ANiels.ofPt (Pt.smul (2 * j + 1) Pt.B) :=
  OddB.entries

theorem odd_multiples_of_B_u32 : ∀ j < 64,
    nielsAt (fes2625 CurveU32.constAFFINE_ODD_MULTIPLES_OF_BASEPOINT) j = ANiels.ofPt (Pt.smul (2 * j + 1) Pt.B) := by
  rw [TablesAgree.tables_enc_agree.2.1]; exact OddB.entries

theorem odd_multiples_of_B_shl_128_u64 : ∀ j < 64,
    nielsAt (fes51 CurveU64.constAFFINE_ODD_MULTIPLES_OF_B_SHL_128) j =
    ANiels.ofPt (Pt.smul ((2 * j + 1) * 2 ^ 128) Pt.B) := by
  intro j hj
  -- `OddBShl0`, `OddBShl1` are one module text at the offsets 0 and 32, hence `0 + (j - 0)`
  rcases (show j < 32 ∨ (32 ≤ j ∧ j < 64) by omega) with h | h
  · have h := OddBShl0.entries (j - 0) (by omega)
    rwa [show 0 + (j - 0) = j by omega] at h
  · have h := OddBShl1.entries (j - 32) (by omega)
    rwa [show 32 + (j - 32) = j by omega] at h

theorem odd_multiples_of_B_shl_128_u32 : ∀ j < 64,
    nielsAt (fes2625 CurveU32.constAFFINE_ODD_MULTIPLES_OF_B_SHL_128) j =
    ANiels.ofPt (Pt.smul ((2 * j + 1) * 2 ^ 128) Pt.B) := by
  rw [TablesAgree.tables_enc_agree.2.2]; exact odd_multiples_of_B_shl_128_u64

end Voi.Props.C20

/-
C16, integer level: the invariant of Pornin's Algorithm 4 as performed by `internal/lattice.FindShortVector`, on the
model `Voi.Model.Lattice` over unbounded `Int`; the tie to the Go code is stream L1.
-/
import Voi.Model.Lattice
namespace Voi.Props.LatticeInv
open Voi.Model.Lattice

-- `decide`, `omega` and `norm_cast` evaluate `2 ^ 511` and the like; the default limit on exponents is 256
set_option exponentiation.threshold 1024

/-- `u, v` lie in the lattice `Λ_k = {(a,b) : a ≡ b·k (mod L)}`, `N_u, N_v, p` are their squared norms and
    inner product, and `(u, v)` is a basis of determinant `±L` (stated as `det² = L²`: a swap changes the sign). -/
structure Inv (k : Int) (st : State) : Prop where
  hu  : L ∣ st.u0 - st.u1 * k
  hv  : L ∣ st.v0 - st.v1 * k
  hnu : st.nu = st.u0 * st.u0 + st.u1 * st.u1
  hnv : st.nv = st.v0 * st.v0 + st.v1 * st.v1
  hp  : st.p = st.u0 * st.v0 + st.u1 * st.v1
  hdet : (st.u0 * st.v1 - st.u1 * st.v0) * (st.u0 * st.v1 - st.u1 * st.v0) = L * L

theorem inv_init (k : Nat) : Inv k (init k) := by
  constructor <;> simp [init]

theorem inv_swap {k : Int} {st : State} (h : Inv k st) : Inv k (swap st) := by
  unfold swap
  split
  · exact
      { hu := h.hv, hv := h.hu, hnu := h.hnv, hnv := h.hnu
        hp := by simp only [h.hp]; grind
        hdet := by simp only [← h.hdet]; grind }
  · exact h

theorem inv_narrow {k : Int} {st : State} (h : Inv k st) : Inv k (narrow st) :=
  { hu := h.hu, hv := h.hv, hnu := h.hnu, hnv := h.hnv, hp := h.hp, hdet := h.hdet }

theorem pow_two_mul (s : Nat) : ((2 ^ (2 * s) : Nat) : Int) = ((2 ^ s : Nat) : Int) * ((2 ^ s : Nat) : Int) := by
  rw [Nat.mul_comm, Nat.pow_mul, Nat.pow_two]; simp

theorem pow_succ_two (s : Nat) : ((2 ^ (s + 1) : Nat) : Int) = 2 * ((2 ^ s : Nat) : Int) := by
  rw [Nat.pow_succ]; simp; grind

theorem dvd_sub_mul {a1 a2 b1 b2 k m : Int} (ha : L ∣ a1 - a2 * k) (hb : L ∣ b1 - b2 * k) :
    L ∣ (a1 - b1 * m) - (a2 - b2 * m) * k := by
  have : (a1 - b1 * m) - (a2 - b2 * m) * k = (a1 - a2 * k) - (b1 - b2 * k) * m := by grind
  rw [this]
  exact Int.dvd_sub ha (Int.dvd_trans hb (Int.dvd_mul_right _ _))

/-- One reduction step `u ← u − c·v` keeps the invariant, whatever the integer `c`; the code takes `c = ±2^s`. -/
theorem inv_sub_mul {k : Int} {st : State} (h : Inv k st) (c : Int) (it : Nat) :
    Inv k { st with u0 := st.u0 - st.v0 * c, u1 := st.u1 - st.v1 * c,
                    nu := st.nu + st.nv * (c * c) - st.p * (2 * c), p := st.p - st.nv * c, iters := it } :=
  { hu := dvd_sub_mul h.hu h.hv
    hv := h.hv
    hnu := by simp only [h.hnu, h.hnv, h.hp]; grind
    hnv := h.hnv
    hp := by simp only [h.hnv, h.hp]; grind
    hdet := by simp only [← h.hdet]; grind }

theorem inv_update {k : Int} {st : State} (h : Inv k st) : Inv k (update st) := by
  unfold update
  simp only [shl, pow_two_mul, pow_succ_two]
  split
  · exact inv_sub_mul h _ _
  · simpa only [Int.mul_neg, Int.neg_mul, Int.neg_neg, Int.sub_neg] using
      inv_sub_mul h (-((2 ^ shiftAmt st : Nat) : Int)) (st.iters + 1)

theorem inv_head {k : Int} {st : State} (h : Inv k st) : Inv k (narrow (swap st)) :=
  inv_narrow (inv_swap h)

theorem fsvLoop_succ (n : Nat) (st : State) : fsvLoop (n + 1) st =
    if exitNow (narrow (swap st)) then (narrow (swap st), true) else fsvLoop n (update (narrow (swap st))) := rfl

theorem swap_le (st : State) : (swap st).nv ≤ (swap st).nu := by
  unfold swap; split <;> (try simp only) <;> omega

theorem swap_frame (st : State) : (swap st).p = st.p ∧ (swap st).iters = st.iters := by
  unfold swap; split <;> exact ⟨rfl, rfl⟩

theorem update_frame (st : State) : (update st).nv = st.nv ∧ (update st).wide = st.wide ∧
    (update st).rangeOk = st.rangeOk ∧ (update st).iters = st.iters + 1 := by
  unfold update; split <;> exact ⟨rfl, rfl, rfl, rfl⟩

/-- Hoare rule for the loop: the step has to keep `I` only at a head with `N_v ≤ N_u` that does not exit -/
theorem loop_inv {I : State → Prop} (head : ∀ st, I st → I (narrow (swap st)))
    (step : ∀ st, I st → st.nv ≤ st.nu → ¬ exitNow st = true → I (update st))
    (n : Nat) (st : State) (h : I st) : I (fsvLoop n st).1 := by
  fun_induction fsvLoop n st with
  | case1 => exact h
  | case2 _ st => exact head st h
  | case3 _ st _ hne ih => exact ih (step _ (head st h) (swap_le st) hne)

theorem inv_loop {k : Int} (n : Nat) {st : State} (h : Inv k st) : Inv k (fsvLoop n st).1 :=
  loop_inv (fun _ => inv_head) (fun _ h _ _ => inv_update h) n st h

theorem inv_run (k : Nat) : Inv k (fsvRun k).1 := inv_loop fuel (inv_init k)

theorem loop_exit (n : Nat) (st : State) (h : (fsvLoop n st).2 = true) : exitNow (fsvLoop n st).1 = true := by
  fun_induction fsvLoop n st with
  | case1 => cases h
  | case2 _ _ _ he => exact he
  | case3 _ _ _ _ ih => exact ih h

theorem loop_stable : ∀ {n : Nat} {st : State}, (fsvLoop n st).2 = true →
    ∀ m, n ≤ m → fsvLoop m st = fsvLoop n st
  | 0, _, h, _, _ => by cases h
  | n + 1, st, h, m + 1, hm => by
    rw [fsvLoop_succ] at h ⊢
    rw [fsvLoop_succ]
    split
    · rfl
    · rename_i hne
      rw [if_neg hne] at h
      exact loop_stable h m (by omega)

/-- stability, not monotonicity -/
theorem loop_mono (n : Nat) (st : State) (h : (fsvLoop n st).2 = true) : fsvLoop (n + 1) st = fsvLoop n st :=
  loop_stable h _ (Nat.le_succ n)

/-- `d0 ≡ d1·k (mod L)`: the orientation used by `edwardsMulAbglsvPorninVartime`
    (`[d0]A + [d1·b]B − [d1]C = d1·([k]A + [b]B − C)` on the prime-order subgroup). -/
theorem fsv_congr (k : Nat) : L ∣ (fsv k).1 - (fsv k).2 * k := (inv_run k).hv

theorem fsv_congr_emod (k : Nat) : (fsv k).1 % L = ((fsv k).2 * k) % L :=
  Int.emod_eq_emod_iff_emod_sub_eq_zero.mpr (Int.emod_eq_zero_of_dvd (fsv_congr k))

/-- a basis vector of a lattice of determinant `±L` is non-zero -/
theorem v_ne_zero {k : Int} {st : State} (h : Inv k st) : ¬ (st.v0 = 0 ∧ st.v1 = 0) := by
  rintro ⟨h0, h1⟩
  have hd := h.hdet
  rw [h0, h1, Int.mul_zero, Int.mul_zero, Int.sub_self, Int.mul_zero] at hd
  exact absurd hd (by decide)

theorem fsv_ne_zero (k : Nat) : fsv k ≠ (0, 0) :=
  fun e => v_ne_zero (inv_run k) ⟨congrArg Prod.fst e, congrArg Prod.snd e⟩

theorem natBitLen_le_iff {n m : Nat} : natBitLen n ≤ m ↔ n < 2 ^ m := by
  unfold natBitLen
  split
  · subst n; simp [Nat.pow_pos]
  · rename_i h; exact Nat.log2_lt h

/-- `BitLen x ≤ m` iff `x` fits `m` bits and a sign bit -/
theorem bitLen_le {x : Int} {m : Nat} :
    bitLen x ≤ m ↔ -((2 ^ m : Nat) : Int) ≤ x ∧ x < ((2 ^ m : Nat) : Int) := by
  cases x with
  | ofNat n => show natBitLen n ≤ m ↔ _; rw [natBitLen_le_iff, Int.ofNat_eq_natCast]; omega
  | negSucc n => show natBitLen n ≤ m ↔ _; rw [natBitLen_le_iff]; omega

theorem lt_bitLen {x : Int} {m : Nat} :
    m < bitLen x ↔ x < -((2 ^ m : Nat) : Int) ∨ ((2 ^ m : Nat) : Int) ≤ x := by
  rw [← Nat.not_le, bitLen_le]; omega

theorem mul_self_nonneg (x : Int) : 0 ≤ x * x := by
  have := Int.sq_nonneg x; grind

theorem abs_lt_of_mul_self_lt {x B : Int} (hB : 0 ≤ B) (h : x * x < B * B) : -B < x ∧ x < B := by
  constructor
  · apply Int.not_le.1; intro hx
    have := Int.mul_self_le_mul_self hB (show B ≤ -x by omega)
    rw [Int.neg_mul_neg] at this; omega
  · apply Int.not_le.1; intro hx
    have := Int.mul_self_le_mul_self hB hx
    omega

theorem nu_nonneg {k : Int} {st : State} (h : Inv k st) : 0 ≤ st.nu :=
  h.hnu ▸ Int.add_nonneg (mul_self_nonneg _) (mul_self_nonneg _)

theorem nv_nonneg {k : Int} {st : State} (h : Inv k st) : 0 ≤ st.nv :=
  h.hnv ▸ Int.add_nonneg (mul_self_nonneg _) (mul_self_nonneg _)

def B254 : Int := ((2 ^ 254 : Nat) : Int)

theorem exitNow_iff {st : State} (h0 : 0 ≤ st.nv) : exitNow st = true ↔ st.nv < B254 := by
  unfold exitNow T B254
  rw [decide_eq_true_iff, bitLen_le]
  omega

def B127 : Int := ((2 ^ 127 : Nat) : Int)

/-- `v_0² + v_1² = N_v < 2^254`, hence `|v_0|, |v_1| < 2^127` -/
theorem short_of_exit {k : Int} {st : State} (h : Inv k st) (he : exitNow st = true) :
    (-B127 < st.v0 ∧ st.v0 < B127) ∧ (-B127 < st.v1 ∧ st.v1 < B127) := by
  have hlt := (exitNow_iff (nv_nonneg h)).1 he
  rw [← (by decide : B127 * B127 = B254), h.hnv] at hlt
  have h0 := mul_self_nonneg st.v0
  have h1 := mul_self_nonneg st.v1
  exact ⟨abs_lt_of_mul_self_lt (by decide) (by omega), abs_lt_of_mul_self_lt (by decide) (by omega)⟩

theorem eq_zero_of_dvd_of_short {x : Int} (hd : L ∣ x) (h : -B127 < x ∧ x < B127) : x = 0 := by
  apply Int.eq_zero_of_dvd_of_natAbs_lt_natAbs hd
  have : B127 < L := by decide
  have hL : L.natAbs = L.toNat := by decide
  omega

/-- were `L ∣ v_1`, shortness would give `v_1 = 0`, then `L ∣ v_0` and `v_0 = 0`: but a basis vector is non-zero -/
theorem v1_not_dvd {k : Int} {st : State} (h : Inv k st) (he : exitNow st = true) : ¬ L ∣ st.v1 := by
  intro hd
  obtain ⟨s0, s1⟩ := short_of_exit h he
  have hv1 : st.v1 = 0 := eq_zero_of_dvd_of_short hd s1
  have hv0d : L ∣ st.v0 := by simpa [hv1] using h.hv
  have hv0 : st.v0 = 0 := eq_zero_of_dvd_of_short hv0d s0
  exact v_ne_zero h ⟨hv0, hv1⟩

/-- by the exit test, not by running out of fuel -/
def Finished (k : Nat) : Prop := (fsvRun k).2 = true

instance (k : Nat) : Decidable (Finished k) := by unfold Finished; infer_instance

theorem fsv_exit {k : Nat} (hf : Finished k) : exitNow (fsvRun k).1 = true := loop_exit fuel (init k) hf

/-- C16: `|d0|, |d1| < 2^127`, so both results fit `Int128` -/
theorem fsv_short {k : Nat} (hf : Finished k) :
    (-B127 < (fsv k).1 ∧ (fsv k).1 < B127) ∧ (-B127 < (fsv k).2 ∧ (fsv k).2 < B127) :=
  short_of_exit (inv_run k) (fsv_exit hf)

theorem fsv_fitsI128 {k : Nat} (hf : Finished k) : fitsI128 (fsv k).1 = true ∧ fitsI128 (fsv k).2 = true := by
  obtain ⟨⟨a, b⟩, ⟨c, d⟩⟩ := fsv_short hf
  unfold B127 at a b c d
  simp only [fitsI128, Bool.and_eq_true, decide_eq_true_eq]
  omega

/-- C16: `d1 ≢ 0 (mod L)`; with `L` prime, `d1` is invertible modulo `L` -/
theorem fsv_d1_not_dvd {k : Nat} (hf : Finished k) : ¬ L ∣ (fsv k).2 := v1_not_dvd (inv_run k) (fsv_exit hf)

theorem fsv_d1_emod_ne_zero {k : Nat} (hf : Finished k) : (fsv k).2 % L ≠ 0 :=
  fun h => fsv_d1_not_dvd hf (Int.dvd_of_emod_eq_zero h)

theorem fsv_d1_ne_zero {k : Nat} (hf : Finished k) : (fsv k).2 ≠ 0 :=
  fun h => fsv_d1_not_dvd hf (by rw [h]; exact Int.dvd_zero _)

/-- Lagrange's identity -/
theorem lagrange {k : Int} {st : State} (h : Inv k st) : st.nu * st.nv - st.p * st.p = L * L := by
  rw [h.hnu, h.hnv, h.hp, ← h.hdet]
  grind

/-- with `N_v ≤ N_u`, Lagrange's identity leaves `N_v² − p² ≤ L² < ¾·2^508` -/
theorem gap {nu nv p : Int} (hle : nv ≤ nu) (hnv : 0 ≤ nv) (hlag : nu * nv - p * p = L * L) :
    4 * (nv * nv - p * p) < 3 * (B254 * B254) := by
  have h1 : nv * nv ≤ nu * nv := Int.mul_le_mul_of_nonneg_right hle hnv
  -- `(2/√3)·L < 2^254`, squared and cleared of denominators
  have : 4 * (L * L) < 3 * (B254 * B254) := by decide
  omega

/-- with `N_v ≥ 2^254` the basis is not Lagrange-reduced, `N_v < 2|p|`: a reduced one has
    `N_v² ≤ (4/3)·det² = (4/3)·L² < 2^508` -/
theorem not_reduced {nu nv p : Int} (hle : nv ≤ nu) (hlag : nu * nv - p * p = L * L) (hbig : B254 ≤ nv) :
    nv < 2 * p ∨ nv < -(2 * p) := by
  have hB : (0 : Int) ≤ B254 := by decide
  have hgap := gap hle (by omega) hlag
  have h1 := Int.mul_self_le_mul_self hB hbig
  by_cases hp : 0 ≤ p
  · have e : (2 * p) * (2 * p) = 4 * (p * p) := by grind
    exact Or.inl (abs_lt_of_mul_self_lt (B := 2 * p) (by omega) (by omega)).2
  · have e : (-(2 * p)) * (-(2 * p)) = 4 * (p * p) := by grind
    exact Or.inr (abs_lt_of_mul_self_lt (B := -(2 * p)) (by omega) (by omega)).2

/-- The arithmetic of one step at a loop head that does not exit, `m = 2^s` the multiplier the code chooses
    (`a = BitLen N_v`, `b = BitLen p`, `s = b - a` truncated): `N_v·m < 2|p|`, which makes `N_u` decrease, and the
    new `p = p ∓ N_v·m` is shorter than `p`, which bounds the number of steps. -/
theorem step_spec {nu nv p m : Int} (hle : nv ≤ nu) (hlag : nu * nv - p * p = L * L) (hbig : B254 ≤ nv)
    (hm : m = ((2 ^ (bitLen p - bitLen nv) : Nat) : Int)) :
    (0 ≤ p → nv * m < 2 * p ∧ bitLen (p - nv * m) < bitLen p) ∧
    (p < 0 → nv * m < -(2 * p) ∧ bitLen (p + nv * m) < bitLen p) := by
  subst hm
  have hB : (0 : Int) < B254 := by decide
  have hgap := gap hle (by omega) hlag
  have hnr := not_reduced hle hlag hbig
  -- 2^(a-1) ≤ N_v < 2^a with a ≥ 255
  have ha : 254 < bitLen nv := lt_bitLen.2 (Or.inr hbig)
  have hnvL := lt_bitLen.1 (show bitLen nv - 1 < bitLen nv by omega)
  have hnvU := (bitLen_le.1 (Nat.le_refl (bitLen nv))).2
  have ea := Nat.two_pow_pred_mul_two (w := bitLen nv) (by omega)
  -- b ≥ a - 1, since 2|p| > N_v ≥ 2^(a-1)
  have hb : bitLen nv - 1 ≤ bitLen p := by
    apply Nat.le_of_not_lt; intro hc
    have := bitLen_le.1 (show bitLen p ≤ bitLen nv - 1 - 1 by omega)
    have := Nat.two_pow_pred_mul_two (w := bitLen nv - 1) (by omega)
    omega
  -- 2^(b-1) ≤ p < 2^b or -2^b ≤ p < -2^(b-1); the new p is to land in [-2^(b-1), 2^(b-1))
  have hpR := bitLen_le.1 (Nat.le_refl (bitLen p))
  have hpT := lt_bitLen.1 (show bitLen p - 1 < bitLen p by omega)
  have eb := Nat.two_pow_pred_mul_two (w := bitLen p) (by omega)
  have done : ∀ p' : Int, -((2 ^ (bitLen p - 1) : Nat) : Int) ≤ p' → p' < ((2 ^ (bitLen p - 1) : Nat) : Int) →
      bitLen p' < bitLen p := fun p' h1 h2 => by
    have := bitLen_le.2 ⟨h1, h2⟩; omega
  by_cases hab : bitLen nv ≤ bitLen p
  · -- 2^(b-1) ≤ N_v·2^(b-a) < 2^b: it has the top bit of |p|, and the difference loses that bit
    have em : 2 ^ (bitLen nv - 1) * 2 ^ (bitLen p - bitLen nv) = 2 ^ (bitLen p - 1) := by
      rw [← Nat.pow_add]; congr 1; omega
    have hm : (0 : Int) < ((2 ^ (bitLen p - bitLen nv) : Nat) : Int) := Int.natCast_pos.2 (Nat.two_pow_pos _)
    have h1 := Int.mul_le_mul_of_nonneg_right (show ((2 ^ (bitLen nv - 1) : Nat) : Int) ≤ nv by omega) (Int.le_of_lt hm)
    have h2 := Int.mul_lt_mul_of_pos_right (show nv < 2 * ((2 ^ (bitLen nv - 1) : Nat) : Int) by omega) hm
    rw [Int.mul_assoc] at h2
    rw [← Int.natCast_mul, em] at h1 h2
    generalize nv * ((2 ^ (bitLen p - bitLen nv) : Nat) : Int) = W at h1 h2 ⊢
    exact ⟨fun hp => ⟨by omega, done _ (by omega) (by omega)⟩, fun hp => ⟨by omega, done _ (by omega) (by omega)⟩⟩
  · -- s = 0 and b = a - 1.  With Y = 2^(b-1): 2Y ≤ N_v, Y ≤ |p|, and N_v - |p| < Y, because otherwise
    -- N_v² - p² = (N_v - |p|)(N_v + |p|) ≥ Y·3Y = ¾(2Y)² ≥ ¾·2^508
    have hs : bitLen p - bitLen nv = 0 := by omega
    have e : bitLen nv - 1 = bitLen p := by omega
    rw [hs, Nat.pow_zero, Int.natCast_one, Int.mul_one]
    rw [e] at hnvL
    have hX : 2 ^ 254 ≤ 2 ^ bitLen p := Nat.pow_le_pow_right (by decide) (by omega)
    obtain ⟨Y, hY⟩ : ∃ Y : Int, Y = ((2 ^ (bitLen p - 1) : Nat) : Int) := ⟨_, rfl⟩
    have hXX : B254 * B254 ≤ (2 * Y) * (2 * Y) :=
      Int.mul_self_le_mul_self (Int.le_of_lt hB) (by unfold B254; omega)
    refine ⟨fun hp => ⟨by omega, done _ ?_ (by omega)⟩, fun hp => ⟨by omega, done _ (by omega) ?_⟩⟩
    · apply Int.not_lt.1; intro hc
      have := Int.mul_le_mul (show Y ≤ nv - p by omega) (show 3 * Y ≤ nv + p by omega) (by omega) (by omega)
      grind
    · apply Int.not_le.1; intro hc
      have := Int.mul_le_mul (show Y ≤ nv + p by omega) (show 3 * Y ≤ nv - p by omega) (by omega) (by omega)
      grind

theorem update_step {k : Int} {st : State} (h : Inv k st) (hle : st.nv ≤ st.nu) (hne : ¬ exitNow st = true) :
    (update st).nu < st.nu ∧ bitLen (update st).p < bitLen st.p := by
  have hbig : B254 ≤ st.nv := Int.not_lt.1 (mt (exitNow_iff (nv_nonneg h)).2 hne)
  have hm : (0 : Int) < ((2 ^ shiftAmt st : Nat) : Int) := Int.natCast_pos.2 (Nat.two_pow_pos _)
  unfold update
  simp only [shl, pow_two_mul, pow_succ_two]
  unfold shiftAmt at hm ⊢
  generalize em : ((2 ^ (bitLen st.p - bitLen st.nv) : Nat) : Int) = m at *
  obtain ⟨hpos, hneg⟩ := step_spec hle (lagrange h) hbig em.symm
  split
  · rename_i hp
    obtain ⟨h1, h2⟩ := hpos hp
    have := Int.mul_lt_mul_of_pos_right h1 hm
    exact ⟨by simp only; grind, h2⟩
  · rename_i hp
    obtain ⟨h1, h2⟩ := hneg (by omega)
    have := Int.mul_lt_mul_of_pos_right h1 hm
    exact ⟨by simp only; grind, h2⟩

theorem update_decreases {k : Int} {st : State} (h : Inv k st) (hle : st.nv ≤ st.nu)
    (hne : ¬ exitNow st = true) : (update st).nu < st.nu := (update_step h hle hne).1

/-- `BitLen p` is the variant (`update_step`) -/
theorem loop_bound {k : Int} (n : Nat) (st : State) (h : Inv k st) (hn : bitLen st.p < n) :
    (fsvLoop n st).2 = true ∧ (fsvLoop n st).1.iters ≤ st.iters + bitLen st.p := by
  fun_induction fsvLoop n st with
  | case1 => cases hn
  | case2 _ st => exact ⟨rfl, (swap_frame st).2 ▸ Nat.le_add_right ..⟩
  | case3 n st st' he ih =>
    obtain ⟨ep, ei⟩ : st'.p = st.p ∧ st'.iters = st.iters := swap_frame st
    have hi : Inv k st' := inv_head h
    have hdec : bitLen (update st').p < bitLen st'.p := (update_step hi (swap_le st) he).2
    rw [ep] at hdec
    obtain ⟨h1, h2⟩ := ih (inv_update hi) (by omega)
    rw [(update_frame st').2.2.2] at h2
    exact ⟨h1, by omega⟩

theorem loop_terminates {k : Int} {st : State} (h : Inv k st) : ∃ n, (fsvLoop n st).2 = true :=
  ⟨_, (loop_bound _ st h (Nat.lt_succ_self _)).1⟩

theorem fsv_terminates (k : Nat) : ∃ n, (fsvLoop n (init k)).2 = true := loop_terminates (inv_init k)

theorem init_p_bitLen {k : Nat} (hk : k < 2 ^ 512) : bitLen (init k).p ≤ 765 := by
  have hL : L = ((L.toNat : Nat) : Int) ∧ L.toNat < 2 ^ 253 := by decide
  show bitLen (L * (k : Int)) ≤ 765
  rw [hL.1, ← Int.natCast_mul, bitLen_le]
  have := Nat.mul_lt_mul'' hL.2 hk
  rw [← Nat.pow_add] at this
  exact ⟨by omega, by exact_mod_cast this⟩

/-- The fuel suffices: initially `p = L·k < 2^765` for `k < 2^512`, every step shortens `p` (`loop_bound`), and
    `fsvRun` has 4096 iterations. -/
theorem run_bound {k : Nat} (hk : k < 2 ^ 512) : Finished k ∧ (fsvRun k).1.iters ≤ 765 := by
  have hp := init_p_bitLen hk
  obtain ⟨h1, h2⟩ := loop_bound fuel (init k) (inv_init k) (Nat.lt_of_le_of_lt hp (by decide))
  exact ⟨h1, Nat.le_trans h2 (by rw [show (init k).iters = 0 from rfl, Nat.zero_add]; exact hp)⟩

theorem finished_of_lt {k : Nat} (hk : k < 2 ^ 512) : Finished k := (run_bound hk).1

/-- the width in force (`narrow` writes the same `if` inline; on word states it is `Word.width`) -/
def W (st : State) : Nat := if st.wide then 512 else 384

theorem W_pos (st : State) : 0 < W st := by unfold W; split <;> decide

theorem narrow_wide (st : State) : (narrow st).wide = (st.wide && !safeToShrink st) := rfl

def bound (st : State) : Int := ((2 ^ (W st - 1) : Nat) : Int)

structure RInv (st : State) : Prop where
  nu_lt : st.nu < bound st
  nv_lt : st.nv < bound st
  ok : st.rangeOk = true

theorem rinv_swap {st : State} (h : RInv st) : RInv (swap st) := by
  unfold swap; split
  · exact ⟨h.nv_lt, h.nu_lt, h.ok⟩
  · exact h

/-- Cauchy–Schwarz, strict because `L ≠ 0` -/
theorem p_lt_nu {k : Int} {st : State} (h : Inv k st) (hle : st.nv ≤ st.nu) : -st.nu < st.p ∧ st.p < st.nu := by
  have hl := lagrange h
  have h0 := nu_nonneg h
  have h1 : st.nu * st.nv ≤ st.nu * st.nu := Int.mul_le_mul_of_nonneg_left hle h0
  have hL : 0 < L * L := by decide
  exact abs_lt_of_mul_self_lt h0 (by omega)

/-- at a loop head (`N_v ≤ N_u`) every bound on `N_u` bounds `N_v` and `|p|` as well -/
theorem head_bounds {k : Int} {st : State} (hi : Inv k st) (hle : st.nv ≤ st.nu) {B : Int} (hB : st.nu < B) :
    (0 ≤ st.nv ∧ st.nv < B) ∧ (-B < st.p ∧ st.p < B) := by
  obtain ⟨hp1, hp2⟩ := p_lt_nu hi hle
  exact ⟨⟨nv_nonneg hi, by omega⟩, by omega, by omega⟩

theorem rinv_narrow {k : Int} {st : State} (hi : Inv k st) (hle : st.nv ≤ st.nu) (h : RInv st) :
    RInv (narrow st) := by
  -- either `SafeToShrink` has just been seen to hold, or the width stays
  have key : st.nu < bound (narrow st) := by
    unfold bound W
    rw [narrow_wide]
    cases hs : safeToShrink st
    · rw [Bool.not_false, Bool.and_true]; exact h.nu_lt
    · rw [Bool.not_true, Bool.and_false]; exact of_decide_eq_true hs
  obtain ⟨⟨h0, h1⟩, hp1, hp2⟩ := head_bounds hi hle key
  have hfit : fits (W (narrow st)) st = true := by
    unfold bound at key h1 hp1 hp2
    simp only [fits, Bool.and_eq_true, decide_eq_true_eq]
    omega
  exact ⟨key, h1, show (st.rangeOk && fits (W (narrow st)) st) = true by rw [h.ok, hfit]; rfl⟩

theorem rinv_update {k : Int} {st : State} (hi : Inv k st) (hle : st.nv ≤ st.nu)
    (hne : ¬ exitNow st = true) (h : RInv st) : RInv (update st) := by
  have hdec := update_decreases hi hle hne
  obtain ⟨hnv, hw, hok, -⟩ := update_frame st
  have hb : bound (update st) = bound st := by unfold bound W; rw [hw]
  exact ⟨by rw [hb]; have := h.nu_lt; omega, by rw [hb, hnv]; exact h.nv_lt, by rw [hok]; exact h.ok⟩

theorem rinv_head {k : Int} {st : State} (hi : Inv k st) (hr : RInv st) : RInv (narrow (swap st)) :=
  rinv_narrow (inv_swap hi) (swap_le st) (rinv_swap hr)

theorem rinv_loop {k : Int} (n : Nat) {st : State} (hi : Inv k st) (hr : RInv st) : RInv (fsvLoop n st).1 :=
  (loop_inv (I := fun st => Inv k st ∧ RInv st) (fun _ h => ⟨inv_head h.1, rinv_head h.1 h.2⟩)
    (fun _ h hle hne => ⟨inv_update h.1, rinv_update h.1 hle hne h.2⟩) n st ⟨hi, hr⟩).2

theorem rinv_init {k : Nat} (hk : k < 2 ^ 255) : RInv (init k) := by
  refine ⟨show L * L < ((2 ^ 511 : Nat) : Int) by decide, ?_, rfl⟩
  show (k : Int) * k + 1 < ((2 ^ 511 : Nat) : Int)
  have := Nat.mul_lt_mul'' hk hk
  exact_mod_cast (show k * k + 1 < 2 ^ 511 by omega)

/-- C16: for every scalar `k < 2^255`, at every loop head `N_u`, `N_v`, `p` fit the 512- resp. 384-bit integers of the
    Go code (`rinv_loop`: with any amount of fuel). -/
theorem fsv_rangeOk {k : Nat} (hk : k < 2 ^ 255) : (fsvRun k).1.rangeOk = true :=
  (rinv_loop fuel (inv_init k) (rinv_init hk)).ok

theorem fsvChecked_ok {k : Nat} (hk : k < 2 ^ 255) (hf : Finished k) :
    fsvChecked k = .ok (fsv k).1 (fsv k).2 (fsvRun k).1.iters := by
  obtain ⟨h0, h1⟩ : fitsI128 (fsvRun k).1.v0 = true ∧ fitsI128 (fsvRun k).1.v1 = true := fsv_fitsI128 hf
  simp only [fsvChecked, fsv, show (fsvRun k).2 = true from hf, fsv_rangeOk hk, h0, h1]
  rfl

theorem fsvChecked_ne_rangeViolation {k : Nat} (hk : k < 2 ^ 255) : fsvChecked k ≠ .rangeViolation := by
  rw [fsvChecked_ok hk (finished_of_lt (Nat.lt_trans hk (by decide)))]
  nofun

/-- what C16 asks of the returned pair `(d0, d1) = (st.v0, st.v1)` (integer level) -/
structure Good (k : Nat) (st : State) : Prop where
  congr : L ∣ st.v0 - st.v1 * k
  ne_zero : ¬ (st.v0 = 0 ∧ st.v1 = 0)
  short0 : -B127 < st.v0 ∧ st.v0 < B127
  short1 : -B127 < st.v1 ∧ st.v1 < B127
  d1_unit : ¬ L ∣ st.v1
  /-- the 512- and 384-bit integers of the Go code never left their range -/
  range : st.rangeOk = true

theorem good_of_finished {k n : Nat} (hk : k < 2 ^ 255) (hf : (fsvLoop n (init k)).2 = true) :
    Good k (fsvLoop n (init k)).1 :=
  have hi := inv_loop n (inv_init k)
  have he := loop_exit n (init k) hf
  { congr := hi.hv
    ne_zero := v_ne_zero hi
    short0 := (short_of_exit hi he).1
    short1 := (short_of_exit hi he).2
    d1_unit := v1_not_dvd hi he
    range := (rinv_loop n (inv_init k) (rinv_init hk)).ok }

/-- C16, integer level, total correctness: for every scalar `k < 2^255` the reduction loop reaches its exit test (any
    larger fuel gives the same final state) and the pair it returns is `Good`. -/
theorem fsv_total_correct {k : Nat} (hk : k < 2 ^ 255) :
    ∃ n, (fsvLoop n (init k)).2 = true ∧ (∀ m, n ≤ m → fsvLoop m (init k) = fsvLoop n (init k)) ∧
      Good k (fsvLoop n (init k)).1 := by
  have hf : Finished k := finished_of_lt (Nat.lt_trans hk (by decide))
  exact ⟨fuel, hf, loop_stable hf, good_of_finished hk hf⟩

/-- C16 for the executable model `fsv` (fuel 4096), which is what stream L1 compares with the Go code -/
def fsv_statement : Prop :=
  ∀ k : Nat, k < 2 ^ 255 → Finished k ∧ Good k (fsvRun k).1

theorem fsv_partial (k : Nat) (hk : k < 2 ^ 255) (hf : Finished k) : Good k (fsvRun k).1 :=
  good_of_finished hk hf

/-! The hypotheses are satisfiable, on a run that is not trivial. -/

/-- `⌊L·F_700/F_701⌋`, about `L/φ` (all partial quotients 1): 161 reduction steps -/
def kEx : Nat := 4472715423563893616032882896421916149548477336229675920703557454894525427265

theorem run_kEx : Finished kEx ∧ (fsvRun kEx).1.iters = 161 := by decide +kernel
theorem finished_kEx : Finished kEx := run_kEx.1
theorem head_kEx : ¬ exitNow (narrow (swap (init kEx))) = true := by decide +kernel

example : kEx < 2 ^ 255 := by decide
example : Finished kEx := finished_kEx
example : (fsvRun kEx).1.iters = 161 := run_kEx.2
example : Good kEx (fsvRun kEx).1 := fsv_partial kEx (by decide) finished_kEx
example : fsv kEx = (-78223260824970602361607920654228030825, -30010821454963453907530667147829489881) := by
  decide +kernel
-- the premises of `update_decreases` hold at the first loop head of this run
example : Inv kEx (narrow (swap (init kEx))) := inv_head (inv_init kEx)
example : ¬ exitNow (narrow (swap (init kEx))) = true := head_kEx
example : (update (narrow (swap (init kEx)))).nu < (narrow (swap (init kEx))).nu :=
  update_decreases (inv_head (inv_init kEx)) (swap_le _) head_kEx
-- an unreduced scalar (k ≥ L): the first step swaps
example : (swap (init (2 ^ 255 - 1))).u1 = 1 := by decide +kernel
example : Finished (2 ^ 255 - 1) := finished_of_lt (by decide)
example : fsvChecked (2 ^ 255 - 1) =
    .ok 84667582102274932455117783478168538729 32608151360171445284720822772657597668 55 := by decide +kernel
example : fsv 0 = (0, 1) := by decide +kernel
example : fsv 1 = (1, 1) := by decide +kernel
-- two's-complement bit length of negative values, as `int512.BitLen`
example : bitLen (-1) = 0 ∧ bitLen (-2) = 1 ∧ bitLen (-256) = 8 ∧ bitLen (-257) = 9 ∧ bitLen 255 = 8 ∧ bitLen 0 = 0 := by
  decide +kernel

end Voi.Props.LatticeInv

section Axioms
open Voi.Props.LatticeInv
#print axioms inv_init
#print axioms inv_update
#print axioms inv_loop
#print axioms fsv_congr
#print axioms fsv_ne_zero
#print axioms fsv_short
#print axioms fsv_d1_not_dvd
#print axioms step_spec
#print axioms update_decreases
#print axioms loop_bound
#print axioms fsv_terminates
#print axioms fsv_rangeOk
#print axioms fsvChecked_ne_rangeViolation
#print axioms fsv_total_correct
#print axioms fsv_partial
end Axioms

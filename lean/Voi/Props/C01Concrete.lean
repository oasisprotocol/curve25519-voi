/-
Properties C01 / C02 and the group-level clause of C16 for the concrete Ed25519 instance: the theorems of `Props/C01`
and `Props/C02` with every hypothesis discharged by `Proofs/ConcreteIface`.  They relate
`Model.Ed25519.verify concrete` (compared with the Go code by stream V2), `Voi.Spec.Ed25519.verify` (stream V1) and
`Voi.Spec.Ed25519.sign`, `publicKey`, `newKeyFromSeed` (stream K1).

What remains as hypothesis, besides "this input verifies / decodes": in `sign_complete_concrete` and
`sign_complete_model_concrete`, `seed.size = 32` (the library panics otherwise) and, only when the options forbid
small-order R (none of the four presets does), that the SHA-512-derived nonce is not ≡ 0 (mod L).  The latter is
necessary: `sign_rejected_of_nonce_zero`.  Collision resistance of SHA-512 is never assumed.
-/
import Voi.Proofs.ConcreteIface

namespace Voi.Props.C01Concrete
open Voi Voi.Spec Voi.Proofs Voi.Model.Ed25519 Voi.Props.C01 Voi.Proofs.ConcreteIface
open Voi.Spec.Ed25519 (VOpts Dom dom2 clamp publicKey newKeyFromSeed)

-- `2 ^ 512` occurs in statements
set_option exponentiation.threshold 1024

/-- C01 for the library: the code-shaped model of `verifyWithOptionsNoPanic`, run on the executable Spec functions,
    decides exactly the specification predicate. -/
theorem model_eq_spec_concrete (o : VOpts) (f : Dom) (ctx pk msg sig : Bytes) :
    verify concrete o f ctx pk msg sig = Voi.Spec.Ed25519.verify o f ctx pk msg sig := by
  rw [← verify_onCurve_eq_concrete, model_eq_spec onCurve onCurve_laws onCurve_expHyp onCurve_shortVecOK_lt,
    specG_onCurve_eq_spec]

/-- restricted to the option sets that reach `verify` (`C02.mode_admissible`); the restriction is not needed -/
theorem model_eq_spec_concrete' (o : VOpts) (_ho : ¬ (o.nonCanR = true ∧ o.cofactorless = true)) (f : Dom)
    (ctx pk msg sig : Bytes) :
    verify concrete o f ctx pk msg sig = Voi.Spec.Ed25519.verify o f ctx pk msg sig :=
  model_eq_spec_concrete o f ctx pk msg sig

theorem spec_verify_iff (o : VOpts) (f : Dom) (ctx pk msg sig : Bytes) :
    Voi.Spec.Ed25519.verify o f ctx pk msg sig = true ↔ Accepts onCurve o f ctx pk msg sig := by
  rw [← specG_onCurve_eq_spec, specG_verify_iff onCurve onCurve_laws]

theorem model_verify_iff_concrete (o : VOpts) (f : Dom) (ctx pk msg sig : Bytes) :
    verify concrete o f ctx pk msg sig = true ↔ Accepts onCurve o f ctx pk msg sig := by
  rw [model_eq_spec_concrete, spec_verify_iff]

section Admitted
-- `verify_admitted` holds for every interface, so it is applied to `concrete` itself.  The statements name the Spec
-- functions, `verify_admitted concrete` the fields of `concrete`: with the Spec functions irreducible the unifier stops
-- at the projections instead of unfolding `Pt.decode (bslice sig 0 32)`.
attribute [local irreducible] Pt.decode Pt.isSmallOrder Pt.isCanonicalEnc scMinimalVartime bslice

/-- no malleability through S -/
theorem verify_S_lt_L_concrete (o : VOpts) (f : Dom) (ctx pk msg sig : Bytes)
    (hv : verify concrete o f ctx pk msg sig = true) : leNat (bslice sig 32 32) < L :=
  (Voi.Props.ScMinimal.scMinimal_iff' _ (sigS_size (verify_admitted concrete hv).1)).1 (verify_admitted concrete hv).2.1

theorem spec_S_lt_L (o : VOpts) (f : Dom) (ctx pk msg sig : Bytes)
    (hv : Voi.Spec.Ed25519.verify o f ctx pk msg sig = true) : leNat (bslice sig 32 32) < L :=
  ((spec_verify_iff o f ctx pk msg sig).1 hv).2.1

theorem verify_sig_size_concrete (o : VOpts) (f : Dom) (ctx pk msg sig : Bytes)
    (hv : verify concrete o f ctx pk msg sig = true) : sig.size = 64 :=
  (verify_admitted concrete hv).1

theorem reject_smallOrder_A_concrete (o : VOpts) (f : Dom) (ctx pk msg sig : Bytes) (ho : o.smallA = false)
    {A : Pt} (hd : Pt.decode pk = some A) (hA : A.isSmallOrder = true) :
    verify concrete o f ctx pk msg sig = false :=
  reject_smallOrder_A concrete o f ctx pk msg sig ho hd hA

theorem reject_smallOrder_R_concrete (o : VOpts) (f : Dom) (ctx pk msg sig : Bytes) (ho : o.smallR = false)
    {R : Pt} (hd : Pt.decode (bslice sig 0 32) = some R) (hR : R.isSmallOrder = true) :
    verify concrete o f ctx pk msg sig = false :=
  reject_smallOrder_R concrete o f ctx pk msg sig ho hd hR

theorem reject_nonCanonical_A_concrete (o : VOpts) (f : Dom) (ctx pk msg sig : Bytes) (ho : o.nonCanA = false)
    (hc : Pt.isCanonicalEnc pk = false) : verify concrete o f ctx pk msg sig = false :=
  reject_nonCanonical_A concrete o f ctx pk msg sig ho hc

theorem reject_nonCanonical_R_concrete (o : VOpts) (f : Dom) (ctx pk msg sig : Bytes) (ho : o.nonCanR = false)
    (hc : Pt.isCanonicalEnc (bslice sig 0 32) = false) : verify concrete o f ctx pk msg sig = false :=
  reject_nonCanonical_R concrete o f ctx pk msg sig ho hc

end Admitted

/-! In the preset statements `A`, `R` range over curve points, and `•`, `-` are the group operations of
`instAddCommGroupCurvePt`, i.e. the executable `Pt.smul`, `Pt.add`, `Pt.neg`. -/

theorem verify_stdlib_iff_concrete (f : Dom) (ctx pk msg sig : Bytes) :
    verify concrete ⟨true, true, true, false, true⟩ f ctx pk msg sig = true ↔
      sig.size = 64 ∧ leNat (bslice sig 32 32) < onCurve.L ∧ ∃ A : onCurve.G, onCurve.decode pk = some A ∧
        onCurve.encode (leNat (bslice sig 32 32) • onCurve.B
            - SpecG.challenge onCurve f ctx (bslice sig 0 32) pk msg • A) = bslice sig 0 32 := by
  rw [← verify_onCurve_eq_concrete]
  exact verify_stdlib_iff onCurve onCurve_laws onCurve_expHyp onCurve_shortVecOK_lt f ctx pk msg sig

theorem verify_fips_iff_concrete (f : Dom) (ctx pk msg sig : Bytes) :
    verify concrete ⟨true, true, false, false, false⟩ f ctx pk msg sig = true ↔
      sig.size = 64 ∧ leNat (bslice sig 32 32) < onCurve.L ∧ ∃ A R : onCurve.G, onCurve.decode pk = some A ∧
        onCurve.decode (bslice sig 0 32) = some R ∧ onCurve.isCanonicalEnc pk = true ∧
        onCurve.isCanonicalEnc (bslice sig 0 32) = true ∧
        (8 : ℕ) • (leNat (bslice sig 32 32) • onCurve.B
            - SpecG.challenge onCurve f ctx (bslice sig 0 32) pk msg • A - R) = 0 := by
  rw [← verify_onCurve_eq_concrete]
  exact verify_fips_iff onCurve onCurve_laws onCurve_expHyp onCurve_shortVecOK_lt f ctx pk msg sig

theorem verify_zip215_iff_concrete (f : Dom) (ctx pk msg sig : Bytes) :
    verify concrete ⟨true, true, true, true, false⟩ f ctx pk msg sig = true ↔
      sig.size = 64 ∧ leNat (bslice sig 32 32) < onCurve.L ∧ ∃ A R : onCurve.G, onCurve.decode pk = some A ∧
        onCurve.decode (bslice sig 0 32) = some R ∧
        (8 : ℕ) • (leNat (bslice sig 32 32) • onCurve.B
            - SpecG.challenge onCurve f ctx (bslice sig 0 32) pk msg • A - R) = 0 := by
  rw [← verify_onCurve_eq_concrete]
  exact verify_zip215_iff onCurve onCurve_laws onCurve_expHyp onCurve_shortVecOK_lt f ctx pk msg sig

theorem verify_default_iff_concrete (f : Dom) (ctx pk msg sig : Bytes) :
    verify concrete ⟨false, true, false, false, false⟩ f ctx pk msg sig = true ↔
      sig.size = 64 ∧ leNat (bslice sig 32 32) < onCurve.L ∧ ∃ A R : onCurve.G, onCurve.decode pk = some A ∧
        onCurve.decode (bslice sig 0 32) = some R ∧ (8 : ℕ) • A ≠ 0 ∧ onCurve.isCanonicalEnc pk = true ∧
        onCurve.isCanonicalEnc (bslice sig 0 32) = true ∧
        (8 : ℕ) • (leNat (bslice sig 32 32) • onCurve.B
            - SpecG.challenge onCurve f ctx (bslice sig 0 32) pk msg • A - R) = 0 := by
  rw [← verify_onCurve_eq_concrete]
  exact verify_default_iff onCurve onCurve_laws onCurve_expHyp onCurve_shortVecOK_lt f ctx pk msg sig

theorem challenge_onCurve (f : Dom) (ctx r a msg : Bytes) :
    SpecG.challenge onCurve f ctx r a msg = Voi.Spec.Ed25519.challenge f ctx r a msg := rfl

theorem verifyWithOptions_concrete (o : Option VOpts) (hs : HashSel) (ctx pk msg sig : Bytes) :
    verifyWithOptions concrete o hs ctx pk msg sig =
      if pk.size ≠ 32 then .panic else
      match mode o ctx hs msg.size with
      | none => .panic
      | some (f, c, v) => .result (Voi.Spec.Ed25519.verify v f c pk msg sig) := by
  unfold verifyWithOptions
  by_cases hp : pk.size ≠ 32
  · simp only [if_pos hp]
  · simp only [if_neg hp]
    rcases mode o ctx hs msg.size with _ | ⟨f, c, v⟩
    · rfl
    · simp only [model_eq_spec_concrete]

theorem verifyWithOptions_concrete_result (o : Option VOpts) (hs : HashSel) (ctx pk msg sig : Bytes) {b : Bool}
    (hr : verifyWithOptions concrete o hs ctx pk msg sig = .result b) :
    pk.size = 32 ∧ ∃ f, Voi.Spec.Ed25519.modeOf o ctx (decide (hs = .sha512)) (decide (hs = .other)) msg.size = some f ∧
      b = Voi.Spec.Ed25519.verify (o.getD VOpts.default) f ctx pk msg sig := by
  rw [verifyWithOptions_concrete] at hr
  by_cases hp : pk.size = 32
  case neg => simp [hp] at hr
  refine ⟨hp, ?_⟩
  simp only [hp, ne_eq, not_true_eq_false, if_false] at hr
  rcases hmode : mode o ctx hs msg.size with _ | ⟨f, c, v⟩
  · rw [hmode] at hr; cases hr
  · rw [hmode] at hr
    obtain ⟨hf, rfl, rfl⟩ := (Voi.Props.C02.mode_eq_some ..).1 hmode
    injection hr with hr
    exact ⟨f, hf, hr.symm⟩

theorem expanded_eq_concrete (o : VOpts) (f : Dom) (ctx pk msg sig : Bytes) {xk : ExpandedKey concrete}
    (hx : newExpandedPublicKey concrete pk = some xk) :
    verifyExpanded concrete o f ctx xk msg sig = verify concrete o f ctx pk msg sig :=
  expanded_eq concrete o f ctx pk msg sig hx

theorem expanded_eq_spec (o : VOpts) (f : Dom) (ctx pk msg sig : Bytes) {xk : ExpandedKey concrete}
    (hx : newExpandedPublicKey concrete pk = some xk) :
    verifyExpanded concrete o f ctx xk msg sig = Voi.Spec.Ed25519.verify o f ctx pk msg sig := by
  rw [expanded_eq_concrete o f ctx pk msg sig hx, model_eq_spec_concrete]

theorem expanded_none_spec (o : VOpts) (f : Dom) (ctx pk msg sig : Bytes)
    (hx : newExpandedPublicKey concrete pk = none) : Voi.Spec.Ed25519.verify o f ctx pk msg sig = false := by
  rw [← model_eq_spec_concrete]; exact expanded_none concrete o f ctx pk msg sig hx

theorem expanded_entry_eq_concrete (o : Option VOpts) (hh : HashSel) (ctx pk msg sig : Bytes) (hpk : pk.size = 32)
    {xk : ExpandedKey concrete} (hx : newExpandedPublicKey concrete pk = some xk) :
    verifyExpandedWithOptions concrete o hh ctx pk msg sig = verifyWithOptions concrete o hh ctx pk msg sig :=
  expanded_entry_eq concrete o hh ctx pk msg sig hpk hx

/-- C16, group level: for curve points `A`, `R` with any torsion component and every `k < 2^512`, `IsSmallOrder` of what
    `TripleScalarMulBasepointVartime(k, −A, s, R)` computes is the plain cofactored check `[8]([s]B − [k]A − R) = 0`. -/
theorem delta_sound_concrete {k : ℕ} (hk : k < 2 ^ 512) (A : CurvePt) (s : ℕ) (R : CurvePt) :
    concrete.isSmallOrder (tripleScalarMulBasepoint concrete k (concrete.neg A.1) s R.1) = true ↔
      (8 : ℕ) • (s • Bc - k • A - R) = 0 := by
  have h1 := triple_isSmallOrder_iff onCurve_laws onCurve_expHyp (onCurve_shortVecOK hk) A s R
  rw [← val_hom.neg, val_hom.triple_eq, val_hom.isSmallOrder]
  exact h1

open Voi.Props.C02 in
theorem sign_eq_signWith (f : Dom) (ctx : Bytes) (entropy : Option Bytes) (priv msg : Bytes) :
    Voi.Spec.Ed25519.sign f ctx entropy priv msg
      = SpecG.signWith onCurve f ctx (clamp (sha512 (bslice priv 0 32))) (nonce f ctx entropy priv msg)
          (bslice priv 32 32) msg := by
  rw [sign_concrete, ← signWith_onCurve_eq_concrete]

section Keys
-- `rfl` below compares the two bodies as they are written, without evaluating a Spec function
attribute [local irreducible] Pt.smul Pt.encode sha512 Pt.B clamp

/-- RFC 8032 §5.1.5 -/
theorem publicKey_eq (seed : Bytes) :
    publicKey seed = onCurve.encode (clamp (sha512 seed) • onCurve.B) := rfl

end Keys

theorem publicKey_size (seed : Bytes) : (publicKey seed).size = 32 := by
  rw [publicKey_eq]; exact onCurve_laws.encode_size _

theorem priv_seed {seed : Bytes} (hs : seed.size = 32) : bslice (newKeyFromSeed seed) 0 32 = seed :=
  bslice_append_left hs

theorem priv_pub {seed : Bytes} (hs : seed.size = 32) : bslice (newKeyFromSeed seed) 32 32 = publicKey seed :=
  bslice_append_right hs (publicKey_size seed)

theorem publicKey_not_smallOrder (seed : Bytes) : (8 : ℕ) • (clamp (sha512 seed) • onCurve.B) ≠ 0 :=
  Voi.Props.C02.not_smallOrder_of_order onCurve onCurve_laws onCurve_orderExact (Voi.Props.C02.clamp_not_dvd _)

theorem sign_seed {seed : Bytes} (hs : seed.size = 32) (f : Dom) (ctx : Bytes) (entropy : Option Bytes) (msg : Bytes) :
    Voi.Spec.Ed25519.sign f ctx entropy (newKeyFromSeed seed) msg
      = SpecG.signWith onCurve f ctx (clamp (sha512 seed))
          (Voi.Props.C02.nonce f ctx entropy (newKeyFromSeed seed) msg)
          (onCurve.encode (clamp (sha512 seed) • onCurve.B)) msg := by
  rw [sign_eq_signWith, priv_seed hs, priv_pub hs, publicKey_eq]

/-- C02 completeness for the library: the signature that `sign` makes under `newKeyFromSeed seed`, with or without added
    randomness, satisfies the specification predicate with `publicKey seed` under every option set. -/
theorem sign_complete_concrete {seed : Bytes} (hs : seed.size = 32) (o : VOpts) (f : Dom) (ctx : Bytes)
    (entropy : Option Bytes) (msg : Bytes)
    (hR : o.smallR = false → Voi.Props.C02.nonce f ctx entropy (newKeyFromSeed seed) msg ≠ 0) :
    Voi.Spec.Ed25519.verify o f ctx (publicKey seed) msg
      (Voi.Spec.Ed25519.sign f ctx entropy (newKeyFromSeed seed) msg) = true := by
  rw [sign_seed hs, publicKey_eq, ← specG_onCurve_eq_spec]
  refine Voi.Props.C02.sign_complete_key onCurve onCurve_laws o f ctx msg _ _ (fun _ => publicKey_not_smallOrder seed) ?_
  intro ho
  refine Voi.Props.C02.not_smallOrder_of_order onCurve onCurve_laws onCurve_orderExact ?_
  intro hd
  -- the nonce is a residue mod `L`
  exact hR ho (Nat.eq_zero_of_dvd_of_lt hd (Nat.mod_lt _ (by decide)))

/-- for the code-shaped model: `SelfVerify`, or `Verify` after `Sign`, never fails -/
theorem sign_complete_model_concrete {seed : Bytes} (hs : seed.size = 32) (o : VOpts) (f : Dom) (ctx : Bytes)
    (entropy : Option Bytes) (msg : Bytes)
    (hR : o.smallR = false → Voi.Props.C02.nonce f ctx entropy (newKeyFromSeed seed) msg ≠ 0) :
    verify concrete o f ctx (publicKey seed) msg
      (Voi.Spec.Ed25519.sign f ctx entropy (newKeyFromSeed seed) msg) = true := by
  rw [model_eq_spec_concrete]; exact sign_complete_concrete hs o f ctx entropy msg hR

theorem sign_complete_presets_concrete {seed : Bytes} (hs : seed.size = 32) (f : Dom) (ctx : Bytes)
    (entropy : Option Bytes) (msg : Bytes) :
    let pk := publicKey seed
    let sig := Voi.Spec.Ed25519.sign f ctx entropy (newKeyFromSeed seed) msg
    Voi.Spec.Ed25519.verify VOpts.default f ctx pk msg sig = true ∧
    Voi.Spec.Ed25519.verify VOpts.stdlib f ctx pk msg sig = true ∧
    Voi.Spec.Ed25519.verify VOpts.fips f ctx pk msg sig = true ∧
    Voi.Spec.Ed25519.verify VOpts.zip215 f ctx pk msg sig = true := by
  refine ⟨?_, ?_, ?_, ?_⟩ <;> exact sign_complete_concrete hs _ f ctx entropy msg (fun hc => by cases hc)

/-- `hR` is necessary: with a zero nonce `R` is the identity, which every option set without `AllowSmallOrderR`
    rejects -/
theorem sign_rejected_of_nonce_zero {seed : Bytes} (hs : seed.size = 32) (o : VOpts) (f : Dom) (ctx : Bytes)
    (entropy : Option Bytes) (msg : Bytes) (ho : o.smallR = false)
    (h0 : Voi.Props.C02.nonce f ctx entropy (newKeyFromSeed seed) msg = 0) :
    Voi.Spec.Ed25519.verify o f ctx (publicKey seed) msg
      (Voi.Spec.Ed25519.sign f ctx entropy (newKeyFromSeed seed) msg) = false := by
  rw [← model_eq_spec_concrete, ← verify_onCurve_eq_concrete, sign_seed hs, h0]
  obtain ⟨-, h2, -⟩ := Voi.Props.C02.signWith_slices onCurve onCurve_laws f ctx (clamp (sha512 seed)) 0
    (onCurve.encode (clamp (sha512 seed) • onCurve.B)) msg
  refine reject_smallOrder_R onCurve o f ctx _ msg _ ho (R := (0 : ℕ) • onCurve.B) ?_ ?_
  · rw [h2]; exact onCurve_laws.decode_encode _
  · rw [onCurve_laws.isSmallOrder_iff, zero_smul, smul_zero]

theorem sign_S_canonical_concrete (f : Dom) (ctx : Bytes) (entropy : Option Bytes) (priv msg : Bytes) :
    (Voi.Spec.Ed25519.sign f ctx entropy priv msg).size = 64 ∧
    leNat (bslice (Voi.Spec.Ed25519.sign f ctx entropy priv msg) 32 32) < L ∧
    Pt.isCanonicalEnc (bslice (Voi.Spec.Ed25519.sign f ctx entropy priv msg) 0 32) = true ∧
    scMinimalVartime (bslice (Voi.Spec.Ed25519.sign f ctx entropy priv msg) 32 32) = true := by
  have h := Voi.Props.C02.sign_S_canonical onCurve onCurve_laws f ctx (clamp (sha512 (bslice priv 0 32)))
    (Voi.Props.C02.nonce f ctx entropy priv msg) (bslice priv 32 32) msg
  rw [← sign_eq_signWith] at h
  generalize Voi.Spec.Ed25519.sign f ctx entropy priv msg = sig at h ⊢
  dsimp only [onCurve] at h
  exact h

/-- C02, S-uniqueness for the library: for fixed R bytes, key, message, context and options at most one `S` satisfies
    the specification predicate. -/
theorem S_unique_concrete (o : VOpts) (f : Dom) (ctx pk msg sig sig' : Bytes)
    (hRb : bslice sig' 0 32 = bslice sig 0 32)
    (hv : Voi.Spec.Ed25519.verify o f ctx pk msg sig = true)
    (hv' : Voi.Spec.Ed25519.verify o f ctx pk msg sig' = true) :
    leNat (bslice sig' 32 32) = leNat (bslice sig 32 32) := by
  rw [← specG_onCurve_eq_spec] at hv hv'
  exact Voi.Props.C02.S_unique onCurve onCurve_laws onCurve_orderExact o f ctx pk msg sig sig' hRb hv hv'

theorem S_unique_bytes_concrete (o : VOpts) (f : Dom) (ctx pk msg sig sig' : Bytes)
    (hRb : bslice sig' 0 32 = bslice sig 0 32)
    (hv : Voi.Spec.Ed25519.verify o f ctx pk msg sig = true)
    (hv' : Voi.Spec.Ed25519.verify o f ctx pk msg sig' = true) : sig' = sig := by
  rw [← specG_onCurve_eq_spec] at hv hv'
  exact Voi.Props.C02.S_unique_bytes onCurve onCurve_laws onCurve_orderExact o f ctx pk msg sig sig' hRb hv hv'

theorem flip_S_rejected_concrete (o : VOpts) (f : Dom) (ctx pk msg sig sig' : Bytes)
    (hv : Voi.Spec.Ed25519.verify o f ctx pk msg sig = true)
    (hRb : bslice sig' 0 32 = bslice sig 0 32) (hne : sig' ≠ sig) :
    Voi.Spec.Ed25519.verify o f ctx pk msg sig' = false ∧ verify concrete o f ctx pk msg sig' = false := by
  have : Voi.Spec.Ed25519.verify o f ctx pk msg sig' = false := by
    rw [← Bool.not_eq_true]
    intro hv'
    exact hne (S_unique_bytes_concrete o f ctx pk msg sig sig' hRb hv hv')
  exact ⟨this, by rw [model_eq_spec_concrete]; exact this⟩

/-! Non-vacuity on RFC 8032 §7.1 TEST 1 (empty message). -/

def seed1 : Bytes := ofHex! "9d61b19deffd5a60ba844af492ec2cc44449c5697b326919703bac031cae7f60"
def pk1 : Bytes := ofHex! "d75a980182b10ab7d54bfed3c964073a0ee172f3daa62325af021a68f707511a"
def sig1 : Bytes := ofHex! ("e5564300c360ac729086e2cc806e828a84877f1eb8e5d974d873e065224901555fb8821590a33bacc61e39701cf9b46b" ++
  "d25bf5f0595bbe24655141438e7a100b")

theorem seed1_size : seed1.size = 32 := by decide +kernel

example : seed1.size = 32 := seed1_size

example : Voi.Spec.Ed25519.verify VOpts.default none ByteArray.empty (publicKey seed1) ByteArray.empty
    (Voi.Spec.Ed25519.sign none ByteArray.empty none (newKeyFromSeed seed1) ByteArray.empty) = true :=
  (sign_complete_presets_concrete seed1_size none ByteArray.empty none ByteArray.empty).1

theorem nonce1_ne : Voi.Props.C02.nonce none ByteArray.empty none (newKeyFromSeed seed1) ByteArray.empty ≠ 0 := by
  decide +kernel

/-- the hypotheses of `sign_complete_concrete` are jointly satisfiable, for every option set -/
example (o : VOpts) : Voi.Spec.Ed25519.verify o none ByteArray.empty (publicKey seed1) ByteArray.empty
    (Voi.Spec.Ed25519.sign none ByteArray.empty none (newKeyFromSeed seed1) ByteArray.empty) = true :=
  sign_complete_concrete seed1_size o none ByteArray.empty none ByteArray.empty
    (fun _ => nonce1_ne)

theorem vec1_accepted :
    Voi.Spec.Ed25519.verify VOpts.default none ByteArray.empty pk1 ByteArray.empty sig1 = true := by
  decide +kernel

example : Voi.Spec.Ed25519.verify VOpts.default none ByteArray.empty pk1 ByteArray.empty sig1 = true :=
  vec1_accepted
/-- the code-shaped model accepts the RFC signature by the theorem, not by evaluation -/
example : verify concrete VOpts.default none ByteArray.empty pk1 ByteArray.empty sig1 = true := by
  rw [model_eq_spec_concrete]; exact vec1_accepted
example : Voi.Spec.Ed25519.verify VOpts.default none ByteArray.empty pk1 ByteArray.empty
    (bslice sig1 0 32 ++ natLE (leNat (bslice sig1 32 32) ^^^ 1) 32) = false :=
  (flip_S_rejected_concrete VOpts.default none ByteArray.empty pk1 ByteArray.empty sig1 _ vec1_accepted
    (by decide +kernel) (by decide +kernel)).1

/-- `delta_sound_concrete` at a torsion-laden instance: `A = B + T1`, `R = T1` (neither in the prime-order subgroup) -/
example (k s : ℕ) (hk : k < 2 ^ 512) (A R : CurvePt) (hA : A = Bc + ⟨Pt.T1, T1_onCurve⟩) (hR : R = ⟨Pt.T1, T1_onCurve⟩) :
    concrete.isSmallOrder (tripleScalarMulBasepoint concrete k (concrete.neg A.1) s R.1) = true ↔
      (8 : ℕ) • (s • Bc - k • (Bc + ⟨Pt.T1, T1_onCurve⟩) - ⟨Pt.T1, T1_onCurve⟩) = 0 := by
  have := delta_sound_concrete hk A s R
  rw [hA, hR] at this ⊢
  exact this

end Voi.Props.C01Concrete

section Axioms
open Voi.Props.C01Concrete
#print axioms model_eq_spec_concrete
#print axioms spec_verify_iff
#print axioms model_verify_iff_concrete
#print axioms verify_S_lt_L_concrete
#print axioms verify_sig_size_concrete
#print axioms reject_smallOrder_A_concrete
#print axioms reject_smallOrder_R_concrete
#print axioms reject_nonCanonical_A_concrete
#print axioms reject_nonCanonical_R_concrete
#print axioms verify_stdlib_iff_concrete
#print axioms verify_fips_iff_concrete
#print axioms verify_zip215_iff_concrete
#print axioms verify_default_iff_concrete
#print axioms verifyWithOptions_concrete
#print axioms verifyWithOptions_concrete_result
#print axioms expanded_eq_concrete
#print axioms expanded_eq_spec
#print axioms expanded_none_spec
#print axioms expanded_entry_eq_concrete
#print axioms delta_sound_concrete
#print axioms sign_eq_signWith
#print axioms publicKey_not_smallOrder
#print axioms sign_complete_concrete
#print axioms sign_complete_model_concrete
#print axioms sign_complete_presets_concrete
#print axioms sign_rejected_of_nonce_zero
#print axioms sign_S_canonical_concrete
#print axioms S_unique_concrete
#print axioms S_unique_bytes_concrete
#print axioms flip_S_rejected_concrete
end Axioms

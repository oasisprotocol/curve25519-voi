/-
C20: constAFFINE_ODD_MULTIPLES_OF_BASEPOINT (64-bit literal), and constAFFINE_ODD_MULTIPLES_OF_B_SHL_128 read as the
odd multiples of the point P = [2^128]B.
-/
import Voi.Props.C20.Points
namespace Voi.Props.C20.OddB
open Voi Voi.Spec Voi.Spec.Limbs Voi.Props.C20 Voi.Gen.Consts

theorem entries : ∀ j < 64,
    nielsAt (fes51 CurveU64.constAFFINE_ODD_MULTIPLES_OF_BASEPOINT) j = ANiels.ofPt (Pt.smul (2 * j + 1) Pt.B) := by
  rw [Points.B_eq]; decide +kernel

/-- the form in which the table is used; in `OddBShl0`, `OddBShl1` entry j is [(2j+1)·2^128]B -/
theorem shl128_entries_as_multiples_of_P : ∀ j < 64,
    nielsAt (fes51 CurveU64.constAFFINE_ODD_MULTIPLES_OF_B_SHL_128) j =
    ANiels.ofPt (Pt.smul (2 * j + 1) (Pt.smul (2 ^ 128) Pt.B)) := by
  rw [Points.B128_eq]; decide +kernel

end Voi.Props.C20.OddB

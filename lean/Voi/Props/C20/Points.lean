/-
C20: the point constants of package `curve`, in both limb encodings, and its byte-string constants.
-/
import Voi.Props.C20.Defs
import Voi.Spec.Ristretto
import Voi.Spec.Montgomery
import Voi.Gen.Consts_CurveU64
import Voi.Gen.Consts_CurveU32
namespace Voi.Props.C20.Points
open Voi Voi.Spec Voi.Spec.Limbs Voi.Props.C20 Voi.Gen.Consts

/-- `Pt.B`, defined in the Spec by decoding y = 4/5 with sign bit 0, is the RFC 8032 base point -/
theorem specB : Pt.B.y * 5 % p = 4 ∧ Pt.B.x % 2 = 0 ∧ Pt.B.x < p ∧ Pt.B.y < p ∧ Pt.B.onCurve = true := by
  decide +kernel

/-- L is prime, so the order is exactly L -/
theorem specB_order : Pt.smul L Pt.B = Pt.zero ∧ Pt.B ≠ Pt.zero := by decide +kernel

theorem B_eq : Pt.B = Blit := by decide +kernel
theorem B128_eq : Pt.smul (2 ^ 128) Pt.B = B128lit := by rw [B_eq]; decide +kernel

/-- 4 field elements × 5 limbs -/
theorem basepoint_u64 :
    CurveU64.ED25519_BASEPOINT_POINT.length = 20 ∧ limbs51Ok CurveU64.ED25519_BASEPOINT_POINT = true ∧
    IsAffineOf (extAt (fes51 CurveU64.ED25519_BASEPOINT_POINT) 0) Pt.B := by
  rw [B_eq]; decide +kernel

/-- 4 field elements × 10 limbs -/
theorem basepoint_u32 :
    CurveU32.ED25519_BASEPOINT_POINT.length = 40 ∧ limbs2625Ok CurveU32.ED25519_BASEPOINT_POINT = true ∧
    IsAffineOf (extAt (fes2625 CurveU32.ED25519_BASEPOINT_POINT) 0) Pt.B := by
  rw [B_eq]; decide +kernel

/-- RISTRETTO_BASEPOINT_POINT wraps a copy of ED25519_BASEPOINT_POINT -/
theorem ristretto_basepoint_u64 : CurveU64.RISTRETTO_BASEPOINT_POINT = CurveU64.ED25519_BASEPOINT_POINT := by decide +kernel
theorem ristretto_basepoint_u32 : CurveU32.RISTRETTO_BASEPOINT_POINT = CurveU32.ED25519_BASEPOINT_POINT := by decide +kernel

theorem b_shl_128_u64 :
    CurveU64.constB_SHL_128.length = 20 ∧ limbs51Ok CurveU64.constB_SHL_128 = true ∧
    Represents (extAt (fes51 CurveU64.constB_SHL_128) 0) (Pt.smul (2 ^ 128) Pt.B) := by
  rw [B128_eq]; decide +kernel

theorem b_shl_128_u32 :
    CurveU32.constB_SHL_128.length = 40 ∧ limbs2625Ok CurveU32.constB_SHL_128 = true ∧
    Represents (extAt (fes2625 CurveU32.constB_SHL_128) 0) (Pt.smul (2 ^ 128) Pt.B) := by
  rw [B128_eq]; decide +kernel

theorem b_shl_128_toPt_u64 : (extAt (fes51 CurveU64.constB_SHL_128) 0).toPt = Pt.smul (2 ^ 128) Pt.B := by
  rw [B128_eq]; decide +kernel
theorem b_shl_128_toPt_u32 : (extAt (fes2625 CurveU32.constB_SHL_128) 0).toPt = Pt.smul (2 ^ 128) Pt.B := by
  rw [B128_eq]; decide +kernel

/-- the stored Z is not 1: hence `Represents` above, not `IsAffineOf` -/
theorem b_shl_128_Z_ne_one : (extAt (fes51 CurveU64.constB_SHL_128) 0).Z ≠ 1 := by decide +kernel

/-- the generator of E[8] the library uses: entry 1 of the array -/
def T1 : Pt :=
  ⟨14399317868200118260347934320527232580618823971194345261214217575416788799818,
   55188659117513257062467267217118295137698188065244968500265048394206261417927⟩

theorem T1_order_eight :
    T1.onCurve = true ∧ Pt.smul 8 T1 = Pt.zero ∧ Pt.smul 4 T1 ≠ Pt.zero ∧ T1 = Pt.T1 := by decide +kernel

theorem eight_torsion_u64 :
    CurveU64.EIGHT_TORSION.length = 160 ∧ limbs51Ok CurveU64.EIGHT_TORSION = true ∧
    ∀ i < 8, IsAffineOf (extAt (fes51 CurveU64.EIGHT_TORSION) i) (Pt.smul i T1) ∧ (Pt.smul i T1).onCurve = true := by
  decide +kernel

theorem eight_torsion_u32 :
    CurveU32.EIGHT_TORSION.length = 320 ∧ limbs2625Ok CurveU32.EIGHT_TORSION = true ∧
    ∀ i < 8, IsAffineOf (extAt (fes2625 CurveU32.EIGHT_TORSION) i) (Pt.smul i T1) ∧ (Pt.smul i T1).onCurve = true := by
  decide +kernel

theorem spec_torsion : ∀ i < 8, Pt.torsion i = Pt.smul i T1 := by decide +kernel

/-- hence the array enumerates all of E[8] -/
theorem eight_torsion_distinct : ∀ i < 8, ∀ j < 8, Pt.smul i T1 = Pt.smul j T1 → i = j := by decide +kernel

theorem eight_torsion_alias_u64 : CurveU64.eightTorsionInnerDocHidden = CurveU64.EIGHT_TORSION := by decide +kernel
theorem eight_torsion_alias_u32 : CurveU32.eightTorsionInnerDocHidden = CurveU32.EIGHT_TORSION := by decide +kernel

theorem ed25519_basepoint_compressed :
    IsBytes 32 CurveU64.ED25519_BASEPOINT_COMPRESSED ∧
    leBytes CurveU64.ED25519_BASEPOINT_COMPRESSED = encNat Pt.B ∧
    bytesToList (Pt.encode Pt.B) = CurveU64.ED25519_BASEPOINT_COMPRESSED := by
  rw [B_eq]; decide +kernel

/-- the hex string is the generator encoding of RFC 9496 §A.1 -/
theorem ristretto_basepoint_compressed :
    IsBytes 32 CurveU64.RISTRETTO_BASEPOINT_COMPRESSED ∧
    bytesToList (ofHex! "e2f2ae0a6abc4e71a884a961c500515f58e30b6aa582dd8db6a65945e08d2d76") = CurveU64.RISTRETTO_BASEPOINT_COMPRESSED ∧
    bytesToList (Ristretto.encode Ristretto.B) = CurveU64.RISTRETTO_BASEPOINT_COMPRESSED := by
  decide +kernel

theorem x25519_basepoint :
    IsBytes 32 CurveU64.X25519_BASEPOINT ∧ leBytes CurveU64.X25519_BASEPOINT = 9 ∧ Montgomery.ofEdwards Pt.B = 9 := by
  rw [B_eq]; decide +kernel

/-- the two encodings with x = 0 and the sign bit set: (0, 1) and (0, −1) -/
theorem noncanonical_sign_bits :
    IsBytes 64 CurveU64.noncanonicalSignBits ∧
    leBytes (CurveU64.noncanonicalSignBits.take 32) = 1 + 2 ^ 255 ∧
    leBytes (CurveU64.noncanonicalSignBits.drop 32) = (p - 1) + 2 ^ 255 ∧
    Pt.onCurve ⟨0, 1⟩ = true ∧ Pt.onCurve ⟨0, p - 1⟩ = true := by decide +kernel

theorem bytes_enc_agree :
    CurveU32.ED25519_BASEPOINT_COMPRESSED = CurveU64.ED25519_BASEPOINT_COMPRESSED ∧
    CurveU32.RISTRETTO_BASEPOINT_COMPRESSED = CurveU64.RISTRETTO_BASEPOINT_COMPRESSED ∧
    CurveU32.X25519_BASEPOINT = CurveU64.X25519_BASEPOINT ∧
    CurveU32.noncanonicalSignBits = CurveU64.noncanonicalSignBits := by decide +kernel

/-- the packed byte tables that the interpreted unpack code consumes: 96 bytes per entry -/
theorem packed_sizes :
    CurveU64.packedEdwardsBasepointTable_size = 256 * 96 ∧ CurveU32.packedEdwardsBasepointTable_size = 256 * 96 ∧
    CurveU64.packedAffineOddMultiplesOfBasepoint_size = 64 * 96 ∧ CurveU32.packedAffineOddMultiplesOfBasepoint_size = 64 * 96 ∧
    CurveU64.packedAffineOddMultiplesOfBShl128_size = 64 * 96 ∧ CurveU32.packedAffineOddMultiplesOfBShl128_size = 64 * 96 := by
  decide +kernel

theorem points_enc_agree :
    fes2625 CurveU32.ED25519_BASEPOINT_POINT = fes51 CurveU64.ED25519_BASEPOINT_POINT ∧
    fes2625 CurveU32.RISTRETTO_BASEPOINT_POINT = fes51 CurveU64.RISTRETTO_BASEPOINT_POINT ∧
    fes2625 CurveU32.constB_SHL_128 = fes51 CurveU64.constB_SHL_128 ∧
    fes2625 CurveU32.EIGHT_TORSION = fes51 CurveU64.EIGHT_TORSION := by decide +kernel

end Voi.Props.C20.Points

/-
C20: the fixed-base table (64-bit literal): entry (i, j) of ED25519_BASEPOINT_TABLE is the affine-Niels form of
[(j+1)·256^i]B.  Row i+1 is 2^8 times row i, and for the Spec's left-to-right double-and-add that is so by
definition: the bits of 2m are those of m followed by a zero, so `Ext.smul (2 * m) Q` is `Ext.smul m Q` doubled
once more.  Hence a column of the table is checked in one walk down its rows that carries the extended point and
doubles it 8 times per row (`colOK`); the kernel evaluates that walk for the 8 columns.
-/
import Voi.Props.C20.Points
namespace Voi.Spec.Ext

theorem smulAux_two_mul (Q : Ext) (m : Nat) :
    ∀ f acc, smulAux Q (f + 1) (2 * m) acc = dbl (smulAux Q f m acc)
  | 0, acc => by simp [smulAux]
  | f + 1, acc => by
    rw [smulAux, Nat.testBit_succ, Nat.mul_div_cancel_left m Nat.two_pos, smulAux_two_mul Q m f]
    rfl

theorem smul_two_mul {m : Nat} (hm : m ≠ 0) (Q : Ext) : smul (2 * m) Q = dbl (smul m Q) := by
  rw [smul, Nat.log2_two_mul hm]
  exact smulAux_two_mul Q m _ _

theorem smul_mul_two_pow {m : Nat} (hm : m ≠ 0) (Q : Ext) :
    ∀ k, smul (m * 2 ^ k) Q = Nat.repeat dbl k (smul m Q)
  | 0 => by rw [Nat.pow_zero, Nat.mul_one]; rfl
  | k + 1 => by
    have hk : m * 2 ^ k ≠ 0 := Nat.mul_ne_zero hm (Nat.ne_of_gt (Nat.two_pow_pos k))
    rw [Nat.pow_succ, ← Nat.mul_assoc, Nat.mul_comm, smul_two_mul hk, smul_mul_two_pow hm Q k]
    rfl

end Voi.Spec.Ext

namespace Voi.Props.C20
open Voi Voi.Spec Voi.Spec.Limbs Voi.Gen.Consts

theorem nielsAt_drop (fs : List Nat) (k i : Nat) : nielsAt (fs.drop (3 * k)) i = nielsAt fs (k + i) := by
  simp only [nielsAt, List.getD_eq_getElem?_getD, List.getElem?_drop, Nat.mul_add, Nat.add_assoc]

/-- Column `j` of the table `fs` (8 entries per row) holds, in its first `n` rows, the affine-Niels forms of
`E`, `[2^8]E`, `[2^16]E`, …, each point computed from the one above it by 8 doublings.  A row that is done is
dropped from `fs`: reading entry k of a list walks to it from the head. -/
def colOK (j : Nat) : Nat → List Nat → Ext → Bool
  | 0, _, _ => true
  | n + 1, fs, E =>
    decide (nielsAt fs j = ANiels.ofPt E.toPt) && colOK j n (fs.drop (3 * 8)) (Nat.repeat Ext.dbl 8 E)

theorem colOK_sound {j : Nat} {P : Pt} : ∀ {n m : Nat} {fs : List Nat}, m ≠ 0 →
    colOK j n fs (Ext.smul m (Ext.ofPt P)) = true →
    ∀ i < n, nielsAt fs (8 * i + j) = ANiels.ofPt (Pt.smul (m * 256 ^ i) P)
  | n + 1, m, fs, hm, h, i, hi => by
    rw [colOK, Bool.and_eq_true, decide_eq_true_eq, ← Ext.smul_mul_two_pow hm] at h
    cases i with
    | zero => rw [Nat.mul_zero, Nat.zero_add, Nat.pow_zero, Nat.mul_one]; exact h.1
    | succ i =>
      have ih := colOK_sound (Nat.mul_ne_zero hm (by decide)) h.2 i (Nat.lt_of_succ_lt_succ hi)
      -- ih : nielsAt (fs.drop (3 * 8)) (8 * i + j) = ANiels.ofPt (Pt.smul (m * 2 ^ 8 * 256 ^ i) P);
      -- `2 ^ 8` unifies with `256`
      rwa [nielsAt_drop, ← Nat.add_assoc, Nat.add_comm 8, ← Nat.mul_succ, Nat.mul_assoc, ← Nat.pow_succ'] at ih

theorem base_table_cols : ∀ j < 8,
    colOK j 32 (fes51 CurveU64.ED25519_BASEPOINT_TABLE) (Ext.smul (j + 1) (Ext.ofPt Blit)) = true := by
  decide +kernel

end Voi.Props.C20

/-
C20: the scalar-field constants of package `curve/scalar` (both limb encodings: 5 × 52 bits, 9 × 29 bits) and the
constants of package `internal/lattice`.
The Montgomery radix differs between the backends: R = 2^260 (5 × 52) resp. R = 2^261 (9 × 29).
`constLFACTOR` and the masks are Go `const`s: they are inlined in the regenerated IR programs (the L0 obligations).
-/
import Voi.Spec.Field
import Voi.Spec.Limbs
import Voi.Gen.Consts_ScalarU64
import Voi.Gen.Consts_ScalarU32
import Voi.Gen.Consts_Lattice
namespace Voi.Props.C20.Scalar
open Voi Voi.Spec Voi.Spec.Limbs Voi.Gen.Consts

def Is52 (l : List Nat) (v : Nat) : Prop := l.length = 5 ∧ allBelow 52 l = true ∧ sc52 l = v
def Is29 (l : List Nat) (v : Nat) : Prop := l.length = 9 ∧ allBelow 29 l = true ∧ sc29 l = v
instance (l : List Nat) (v : Nat) : Decidable (Is52 l v) := by unfold Is52; infer_instance
instance (l : List Nat) (v : Nat) : Decidable (Is29 l v) := by unfold Is29; infer_instance

theorem spec_L : L = 2 ^ 252 + 27742317777372353535851937790883648493 ∧
    L = 7237005577332262213973186563042994240857116359379907606001950938285454250989 := by decide +kernel

/-- a packed 32-byte `Scalar`, deliberately non-canonical -/
theorem basepoint_order :
    ScalarU64.BASEPOINT_ORDER.length = 32 ∧ allBelow 8 ScalarU64.BASEPOINT_ORDER = true ∧
    leBytes ScalarU64.BASEPOINT_ORDER = L ∧ ScalarU32.BASEPOINT_ORDER = ScalarU64.BASEPOINT_ORDER := by decide +kernel

/-- `order` of sc_minimal.go -/
theorem order_words :
    ScalarU64.order.length = 4 ∧ allBelow 64 ScalarU64.order = true ∧
    leWords64 ScalarU64.order = L ∧ ScalarU32.order = ScalarU64.order := by decide +kernel

theorem const_L : Is52 ScalarU64.constL L ∧ Is29 ScalarU32.constL L := by decide +kernel

theorem const_R : Is52 ScalarU64.constR (2 ^ 260 % L) ∧ Is29 ScalarU32.constR (2 ^ 261 % L) := by decide +kernel

theorem const_RR :
    Is52 ScalarU64.constRR (2 ^ 260 * 2 ^ 260 % L) ∧ Is29 ScalarU32.constRR (2 ^ 261 * 2 ^ 261 % L) := by decide +kernel

/-- R is the radix of the whole limb vector -/
theorem montgomery_radix : 5 * 52 = 260 ∧ 9 * 29 = 261 := by decide

/-- for L only: R and RR differ between the backends -/
theorem scalar_enc_agree : sc29 ScalarU32.constL = sc52 ScalarU64.constL := by decide +kernel

/-! `internal/lattice`: an `Int128` is dumped as its fields `hi : int64`, `lo : uint64`, an `int512` as 8 words. -/

/-- `hi < 2 ^ 63`: non-negative; `reverse`: `hi` is dumped first -/
theorem ell_lower_half :
    Lattice.constELL_LOWER_HALF.length = 2 ∧ allBelow 64 Lattice.constELL_LOWER_HALF = true ∧
    Lattice.constELL_LOWER_HALF.headD 0 < 2 ^ 63 ∧
    leWords64 Lattice.constELL_LOWER_HALF.reverse = L % 2 ^ 128 := by decide +kernel

theorem i128_zero_one : Lattice.i128Zero = [0, 0] ∧ Lattice.i128One = [0, 1] := by decide +kernel

theorem i512_one :
    Lattice.i512One.length = 8 ∧ allBelow 64 Lattice.i512One = true ∧ leWords64 Lattice.i512One = 1 := by decide +kernel

end Voi.Props.C20.Scalar

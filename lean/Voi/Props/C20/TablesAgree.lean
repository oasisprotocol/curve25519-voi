/-
C20: the three affine-Niels tables of package `curve`, as unpacked by the interpreted initialisers: shape, limb ranges,
canonicity, aliases, and agreement of the 64-bit and 32-bit encodings.  ED25519_BASEPOINT_TABLE has 32 × 8 entries
(`edwardsBasepointTableInnerDocHidden` is the same object, RISTRETTO_BASEPOINT_TABLE holds a copy), the two tables of
odd multiples 64 each; an entry is an `affineNielsPoint` = 3 field elements.
What the entries are is proved in `Voi.Props.C20.Base`, `OddB`, `OddBShl0`, `OddBShl1` for the 64-bit literals and
carried over to the 32-bit literals in `Voi.Props.C20` by `tables_enc_agree`.
-/
import Voi.Props.C20.Defs
import Voi.Gen.Consts_CurveU64
import Voi.Gen.Consts_CurveU32
namespace Voi.Props.C20.TablesAgree
open Voi Voi.Spec Voi.Spec.Limbs Voi.Props.C20 Voi.Gen.Consts

theorem shape_u64 :
    CurveU64.ED25519_BASEPOINT_TABLE.length = 256 * 3 * 5 ∧
    CurveU64.constAFFINE_ODD_MULTIPLES_OF_BASEPOINT.length = 64 * 3 * 5 ∧
    CurveU64.constAFFINE_ODD_MULTIPLES_OF_B_SHL_128.length = 64 * 3 * 5 ∧
    limbs51Ok CurveU64.ED25519_BASEPOINT_TABLE = true ∧
    limbs51Ok CurveU64.constAFFINE_ODD_MULTIPLES_OF_BASEPOINT = true ∧
    limbs51Ok CurveU64.constAFFINE_ODD_MULTIPLES_OF_B_SHL_128 = true ∧
    (fes51 CurveU64.ED25519_BASEPOINT_TABLE).all (· < p) = true ∧
    (fes51 CurveU64.constAFFINE_ODD_MULTIPLES_OF_BASEPOINT).all (· < p) = true ∧
    (fes51 CurveU64.constAFFINE_ODD_MULTIPLES_OF_B_SHL_128).all (· < p) = true := by decide +kernel

theorem shape_u32 :
    CurveU32.ED25519_BASEPOINT_TABLE.length = 256 * 3 * 10 ∧
    CurveU32.constAFFINE_ODD_MULTIPLES_OF_BASEPOINT.length = 64 * 3 * 10 ∧
    CurveU32.constAFFINE_ODD_MULTIPLES_OF_B_SHL_128.length = 64 * 3 * 10 ∧
    limbs2625Ok CurveU32.ED25519_BASEPOINT_TABLE = true ∧
    limbs2625Ok CurveU32.constAFFINE_ODD_MULTIPLES_OF_BASEPOINT = true ∧
    limbs2625Ok CurveU32.constAFFINE_ODD_MULTIPLES_OF_B_SHL_128 = true ∧
    (fes2625 CurveU32.ED25519_BASEPOINT_TABLE).all (· < p) = true ∧
    (fes2625 CurveU32.constAFFINE_ODD_MULTIPLES_OF_BASEPOINT).all (· < p) = true ∧
    (fes2625 CurveU32.constAFFINE_ODD_MULTIPLES_OF_B_SHL_128).all (· < p) = true := by decide +kernel

theorem aliases :
    CurveU64.edwardsBasepointTableInnerDocHidden = CurveU64.ED25519_BASEPOINT_TABLE ∧
    CurveU64.RISTRETTO_BASEPOINT_TABLE = CurveU64.ED25519_BASEPOINT_TABLE ∧
    CurveU32.edwardsBasepointTableInnerDocHidden = CurveU32.ED25519_BASEPOINT_TABLE ∧
    CurveU32.RISTRETTO_BASEPOINT_TABLE = CurveU32.ED25519_BASEPOINT_TABLE := ⟨rfl, rfl, rfl, rfl⟩

theorem tables_enc_agree :
    fes2625 CurveU32.ED25519_BASEPOINT_TABLE = fes51 CurveU64.ED25519_BASEPOINT_TABLE ∧
    fes2625 CurveU32.constAFFINE_ODD_MULTIPLES_OF_BASEPOINT = fes51 CurveU64.constAFFINE_ODD_MULTIPLES_OF_BASEPOINT ∧
    fes2625 CurveU32.constAFFINE_ODD_MULTIPLES_OF_B_SHL_128 = fes51 CurveU64.constAFFINE_ODD_MULTIPLES_OF_B_SHL_128 := by
  decide +kernel

end Voi.Props.C20.TablesAgree

/-
C20: the field-element constants of packages `internal/field`, `curve` and `internal/elligator`, in both limb
encodings (5 × 51 bits and 10 × 25.5 bits).

For every constant one theorem says: the 64-bit literal and the 32-bit literal both are the canonical encoding
(right number of limbs, every limb within its nominal width, value < p) of one value `v`, `v` is the value the name
promises (decimal literal of RFC 9496 §4.1 where there is one), and `v` satisfies its defining equation.  That the
two encodings agree is a consequence (`field_enc_agree`).
-/
import Voi.Props.C20.Defs
import Voi.Spec.Ristretto
import Voi.Spec.Montgomery
import Voi.Spec.H2C
import Voi.Gen.Consts_FieldU64
import Voi.Gen.Consts_FieldU32
import Voi.Gen.Consts_CurveU64
import Voi.Gen.Consts_CurveU32
import Voi.Gen.Consts_ElligatorU64
import Voi.Gen.Consts_ElligatorU32
namespace Voi.Props.C20.Field
open Voi Voi.Spec Voi.Spec.Limbs Voi.Props.C20 Voi.Gen.Consts

def Is51 (l : List Nat) (v : Nat) : Prop := l.length = 5 ∧ allBelow 51 l = true ∧ fe51 l = v ∧ v < p
def Is2625 (l : List Nat) (v : Nat) : Prop := l.length = 10 ∧ limbs2625Ok l = true ∧ fe2625 l = v ∧ v < p
instance (l : List Nat) (v : Nat) : Decidable (Is51 l v) := by unfold Is51; infer_instance
instance (l : List Nat) (v : Nat) : Decidable (Is2625 l v) := by unfold Is2625; infer_instance

def Both (l64 l32 : List Nat) (v : Nat) : Prop := Is51 l64 v ∧ Is2625 l32 v
instance (a b : List Nat) (v : Nat) : Decidable (Both a b v) := by unfold Both; infer_instance

theorem Both.agree {a b : List Nat} {v : Nat} (h : Both a b v) : fe2625 b = fe51 a := by
  rw [h.1.2.2.1, h.2.2.2.1]

/-- RFC 8032: d = −121665/121666 -/
theorem edwards_d :
    Both CurveU64.constEDWARDS_D CurveU32.constEDWARDS_D
      37095705934669439343138083508754565189542113879843219016388785533085940283555 ∧
    (37095705934669439343138083508754565189542113879843219016388785533085940283555 * 121666 + 121665) % p = 0 ∧
    Fp.d = 37095705934669439343138083508754565189542113879843219016388785533085940283555 := by decide +kernel

theorem edwards_d2 :
    Both CurveU64.constEDWARDS_D2 CurveU32.constEDWARDS_D2 (2 * Fp.d % p) ∧ Fp.d2 = 2 * Fp.d % p := by decide +kernel

theorem minus_one : Both CurveU64.constMINUS_ONE CurveU32.constMINUS_ONE (p - 1) := by decide +kernel

/-- RFC 9496 §4.1 SQRT_AD_MINUS_ONE = sqrt(a·d − 1) with a = −1 -/
theorem sqrt_ad_minus_one :
    Both CurveU64.constSQRT_AD_MINUS_ONE CurveU32.constSQRT_AD_MINUS_ONE
      25063068953384623474111414158702152701244531502492656460079210482610430750235 ∧
    Fp.sq 25063068953384623474111414158702152701244531502492656460079210482610430750235 = Fp.sub (Fp.neg Fp.d) 1 ∧
    Ristretto.SQRT_AD_MINUS_ONE = 25063068953384623474111414158702152701244531502492656460079210482610430750235 := by
  decide +kernel

/-- RFC 9496 §4.1 INVSQRT_A_MINUS_D = 1/sqrt(a − d) with a = −1: the root that SQRT_RATIO_M1(1, a − d) returns -/
theorem invsqrt_a_minus_d :
    Both CurveU64.constINVSQRT_A_MINUS_D CurveU32.constINVSQRT_A_MINUS_D
      54469307008909316920995813868745141605393597292927456921205312896311721017578 ∧
    Fp.mul (Fp.sq 54469307008909316920995813868745141605393597292927456921205312896311721017578) (Fp.sub (Fp.neg 1) Fp.d) = 1 ∧
    Fp.sqrtRatioM1 1 (Fp.sub (Fp.neg 1) Fp.d) = (true, 54469307008909316920995813868745141605393597292927456921205312896311721017578) ∧
    Ristretto.INVSQRT_A_MINUS_D = 54469307008909316920995813868745141605393597292927456921205312896311721017578 := by
  decide +kernel

/-- RFC 9496 §4.1 ONE_MINUS_D_SQ -/
theorem one_minus_d_sq :
    Both CurveU64.constONE_MINUS_EDWARDS_D_SQUARED CurveU32.constONE_MINUS_EDWARDS_D_SQUARED
      1159843021668779879193775521855586647937357759715417654439879720876111806838 ∧
    1159843021668779879193775521855586647937357759715417654439879720876111806838 = Fp.sub 1 (Fp.sq Fp.d) ∧
    Ristretto.ONE_MINUS_D_SQ = 1159843021668779879193775521855586647937357759715417654439879720876111806838 := by
  decide +kernel

/-- RFC 9496 §4.1 D_MINUS_ONE_SQ -/
theorem d_minus_one_sq :
    Both CurveU64.constEDWARDS_D_MINUS_ONE_SQUARED CurveU32.constEDWARDS_D_MINUS_ONE_SQUARED
      40440834346308536858101042469323190826248399146238708352240133220865137265952 ∧
    40440834346308536858101042469323190826248399146238708352240133220865137265952 = Fp.sq (Fp.sub Fp.d 1) ∧
    Ristretto.D_MINUS_ONE_SQ = 40440834346308536858101042469323190826248399146238708352240133220865137265952 := by
  decide +kernel

/-- the even ("non-negative") square root of −1; decimal value of RFC 9496 §4.1 -/
theorem sqrt_m1 :
    Both FieldU64.SQRT_M1 FieldU32.SQRT_M1
      19681161376707505956807079304988542015446066515923890162744021073123829784752 ∧
    19681161376707505956807079304988542015446066515923890162744021073123829784752 = Fp.pow 2 ((p - 1) / 4) ∧
    Fp.sq 19681161376707505956807079304988542015446066515923890162744021073123829784752 = p - 1 ∧
    19681161376707505956807079304988542015446066515923890162744021073123829784752 % 2 = 0 ∧
    Fp.sqrtM1 = 19681161376707505956807079304988542015446066515923890162744021073123829784752 := by decide +kernel

theorem field_minus_one : Both FieldU64.MinusOne FieldU32.MinusOne (p - 1) := by decide +kernel
theorem field_one : Both FieldU64.One FieldU32.One 1 := by decide +kernel
theorem field_two : Both FieldU64.Two FieldU32.Two 2 := by decide +kernel

/-- a variable only in the 32-bit backend (an inlined Go `const` in the 64-bit one) -/
theorem aplus2_over_four : Is2625 FieldU32.constAPLUS2_OVER_FOUR 121666 ∧ 4 * 121666 = 486662 + 2 := by decide +kernel

theorem elligator_zero : Both ElligatorU64.constFieldZero ElligatorU32.constFieldZero 0 := by decide +kernel

theorem montgomery_a :
    Both ElligatorU64.constMONTGOMERY_A ElligatorU32.constMONTGOMERY_A 486662 ∧ Montgomery.A = 486662 := by decide +kernel

theorem montgomery_neg_a :
    Both ElligatorU64.constMONTGOMERY_NEG_A ElligatorU32.constMONTGOMERY_NEG_A (p - 486662) := by decide +kernel

/-- A² < p: no reduction -/
theorem montgomery_a_squared :
    Both ElligatorU64.constMONTGOMERY_A_SQUARED ElligatorU32.constMONTGOMERY_A_SQUARED (486662 * 486662) := by decide +kernel

/-- the even root; the constant of RFC 9380 Appendix D.1 -/
theorem montgomery_sqrt_neg_a_plus_two :
    Both ElligatorU64.constMONTGOMERY_SQRT_NEG_A_PLUS_TWO ElligatorU32.constMONTGOMERY_SQRT_NEG_A_PLUS_TWO
      6853475219497561581579357271197624642482790079785650197046958215289687604742 ∧
    Fp.sq 6853475219497561581579357271197624642482790079785650197046958215289687604742 = p - (486662 + 2) ∧
    6853475219497561581579357271197624642482790079785650197046958215289687604742 % 2 = 0 ∧
    H2C.sqrtNeg486664 = 6853475219497561581579357271197624642482790079785650197046958215289687604742 := by decide +kernel

theorem montgomery_u_factor :
    Both ElligatorU64.constMONTGOMERY_U_FACTOR ElligatorU32.constMONTGOMERY_U_FACTOR (Fp.neg (Fp.mul 2 Fp.sqrtM1)) := by
  decide +kernel

/-- the even root of U_FACTOR -/
theorem montgomery_v_factor :
    Both ElligatorU64.constMONTGOMERY_V_FACTOR ElligatorU32.constMONTGOMERY_V_FACTOR
      38214883241950591754978413199355411911188925816896391856984770930832735035198 ∧
    Fp.sq 38214883241950591754978413199355411911188925816896391856984770930832735035198 = Fp.neg (Fp.mul 2 Fp.sqrtM1) ∧
    38214883241950591754978413199355411911188925816896391856984770930832735035198 % 2 = 0 := by decide +kernel

theorem field_enc_agree :
    fe2625 CurveU32.constEDWARDS_D = fe51 CurveU64.constEDWARDS_D ∧
    fe2625 CurveU32.constEDWARDS_D2 = fe51 CurveU64.constEDWARDS_D2 ∧
    fe2625 CurveU32.constMINUS_ONE = fe51 CurveU64.constMINUS_ONE ∧
    fe2625 CurveU32.constSQRT_AD_MINUS_ONE = fe51 CurveU64.constSQRT_AD_MINUS_ONE ∧
    fe2625 CurveU32.constINVSQRT_A_MINUS_D = fe51 CurveU64.constINVSQRT_A_MINUS_D ∧
    fe2625 CurveU32.constONE_MINUS_EDWARDS_D_SQUARED = fe51 CurveU64.constONE_MINUS_EDWARDS_D_SQUARED ∧
    fe2625 CurveU32.constEDWARDS_D_MINUS_ONE_SQUARED = fe51 CurveU64.constEDWARDS_D_MINUS_ONE_SQUARED ∧
    fe2625 FieldU32.SQRT_M1 = fe51 FieldU64.SQRT_M1 ∧
    fe2625 FieldU32.MinusOne = fe51 FieldU64.MinusOne ∧
    fe2625 FieldU32.One = fe51 FieldU64.One ∧
    fe2625 FieldU32.Two = fe51 FieldU64.Two ∧
    fe2625 ElligatorU32.constFieldZero = fe51 ElligatorU64.constFieldZero ∧
    fe2625 ElligatorU32.constMONTGOMERY_A = fe51 ElligatorU64.constMONTGOMERY_A ∧
    fe2625 ElligatorU32.constMONTGOMERY_NEG_A = fe51 ElligatorU64.constMONTGOMERY_NEG_A ∧
    fe2625 ElligatorU32.constMONTGOMERY_A_SQUARED = fe51 ElligatorU64.constMONTGOMERY_A_SQUARED ∧
    fe2625 ElligatorU32.constMONTGOMERY_SQRT_NEG_A_PLUS_TWO = fe51 ElligatorU64.constMONTGOMERY_SQRT_NEG_A_PLUS_TWO ∧
    fe2625 ElligatorU32.constMONTGOMERY_U_FACTOR = fe51 ElligatorU64.constMONTGOMERY_U_FACTOR ∧
    fe2625 ElligatorU32.constMONTGOMERY_V_FACTOR = fe51 ElligatorU64.constMONTGOMERY_V_FACTOR :=
  ⟨edwards_d.1.agree, edwards_d2.1.agree, minus_one.agree, sqrt_ad_minus_one.1.agree, invsqrt_a_minus_d.1.agree,
   one_minus_d_sq.1.agree, d_minus_one_sq.1.agree, sqrt_m1.1.agree, field_minus_one.agree, field_one.agree, field_two.agree,
   elligator_zero.agree, montgomery_a.1.agree, montgomery_neg_a.agree, montgomery_a_squared.agree,
   montgomery_sqrt_neg_a_plus_two.1.agree, montgomery_u_factor.agree, montgomery_v_factor.1.agree⟩

end Voi.Props.C20.Field

/-
Property C15: ECVRF (RFC 9381, suite ECVRF-EDWARDS25519-SHA512-ELL2) over the interface `VrfIface` of `Voi.Model.ECVRF`.

For every instance whose carrier is a commutative group and which satisfies `VrfLaws`: what `SpecG.verify` accepts and
rejects, exactly; completeness for all secret scalars, all nonces and both challenge formats; β depends only on `8•Γ`; the
two formats never hash the same string; the algebraic core of uniqueness; the code-shaped model (`doVerify`, `doProve`, …)
computes `SpecG.*`, which for `concrete` are `Voi.Spec.ECVRF.*`.

Not claimed: `full_uniqueness_statement`, `cross_format_statement` (random-oracle statements; the `…_partial` theorems say
what is proved, `Toy.toy_not_full_uniqueness` that the first does not follow from the laws).  `VrfLaws concrete` is not
proved (`Voi.Proofs.ConcreteIface` has `Laws`, `ExpHyp`, `OrderExact` on the on-curve carrier; `e2c_order` is C14
`suite_point_torsion_free`, which takes `ExpHyp`): the tie concrete ↔ Go is streams E1 (Spec) and E2 (model).  No
instance meets all hypotheses of `full_uniqueness_partial` and `vrf_model_eq_spec_prove`: the toy one fails `2^128 ≤ L`.
-/
import Voi.Props.C02
import Voi.Props.BytesMore
import Voi.Model.ECVRF

namespace Voi.Props.C15
open Voi Voi.Spec Voi.Model.ECVRF Voi.Props.C01 Voi.Props.C02 Voi.Props.Bytes
open Voi.Model.Ed25519 (EdIface)
open Voi.Spec.ECVRF (suiteString cLen ptLen qLen proofSize)

-- `rfl` patterns, `congr` and `exact` would otherwise unfold the byte functions; they are used through their lemmas only
attribute [local irreducible] leNat bslice natLE

section Concrete
-- the curve, hash and h2c functions are the same constants on both sides: folded, `rfl` compares them by name
attribute [local irreducible] Pt.decode Pt.mul8 Pt.isZero Pt.smul Pt.add Pt.neg Pt.encode Pt.isCanonicalEnc
  sha512 Voi.beq Pt.B bzero Voi.Spec.ECVRF.encodeToCurve

theorem specG_stringToPoint_concrete (b : Bytes) :
    SpecG.stringToPoint concrete b = Voi.Spec.ECVRF.stringToPoint b := rfl

theorem specG_challenge_concrete (y : Option Bytes) (hs gs : Bytes) (U W : Pt) :
    SpecG.challenge concrete y hs gs U W = Voi.Spec.ECVRF.challenge y hs gs U W := rfl

theorem specG_gammaToHash_concrete (g : Pt) :
    SpecG.gammaToHash concrete g = Voi.Spec.ECVRF.gammaToHash g := rfl

theorem concrete_encodeToCurve : concrete.encodeToCurve = Voi.Spec.ECVRF.encodeToCurve := rfl

theorem specG_decodeProof_concrete (pi : Bytes) :
    SpecG.decodeProof concrete pi = Voi.Spec.ECVRF.decodeProof pi := by
  -- the two sides `match` through different auxiliary matchers, which `rfl` does not see through while the scrutinee is
  -- stuck: split the scrutinee first (likewise below)
  rcases h1 : Voi.Spec.ECVRF.stringToPoint (bslice pi 0 ptLen) with _ | g <;>
  simp only [SpecG.decodeProof, Voi.Spec.ECVRF.decodeProof, specG_stringToPoint_concrete, h1] <;> rfl

theorem specG_proofToHash_concrete (pi : Bytes) :
    SpecG.proofToHash concrete pi = Voi.Spec.ECVRF.proofToHash pi := by
  unfold SpecG.proofToHash Voi.Spec.ECVRF.proofToHash
  rw [specG_decodeProof_concrete]
  rfl

theorem specG_verify_concrete (withY : Bool) (pk pi alpha : Bytes) :
    SpecG.verify concrete withY pk pi alpha = Voi.Spec.ECVRF.verify withY pk pi alpha := by
  rcases h1 : Voi.Spec.ECVRF.stringToPoint pk with _ | Y <;>
  rcases h2 : Voi.Spec.ECVRF.decodeProof pi with _ | ⟨g, c, s⟩ <;>
  rcases h3 : Voi.Spec.ECVRF.encodeToCurve pk alpha with _ | H <;>
  simp only [SpecG.verify, Voi.Spec.ECVRF.verify, specG_stringToPoint_concrete, specG_decodeProof_concrete,
    specG_gammaToHash_concrete, concrete_encodeToCurve, h1, h2, h3] <;> rfl

/-- `Voi.Spec.ECVRF.prove` is what stream E1 compares with `Prove*` -/
theorem specG_prove_concrete' (withY : Bool) (entropy : Option Bytes) (sk alpha : Bytes) :
    SpecG.prove concrete withY entropy sk alpha = Voi.Spec.ECVRF.prove withY entropy sk alpha := by
  rcases h1 : Voi.Spec.ECVRF.encodeToCurve (bslice sk 32 32) alpha with _ | H <;> cases entropy <;>
  simp only [SpecG.prove, Voi.Spec.ECVRF.prove, concrete_encodeToCurve, h1] <;> rfl

/-- the hypothesis `hx` of `vrf_complete_honest` holds for the keys of the library -/
theorem expandKey_not_dvd (seed : Bytes) : ¬ L ∣ (Voi.Spec.ECVRF.expandKey seed).1 :=
  show ¬ L ∣ Voi.Spec.Ed25519.clamp (sha512 seed) from clamp_not_dvd _

end Concrete


/-- `C01.Laws` plus what ECVRF needs: `MulByCofactor` is multiplication by 8 and encode-to-curve lands in the prime-order
    part (the suite ends with `H2C.clearCofactor`, see `order_of_cleared`). -/
structure VrfLaws (V : VrfIface) [AddCommGroup V.G] : Prop where
  ed : Laws V.toEdIface
  mul8_eq : ∀ P : V.G, V.mul8 P = (8 : ℕ) • P
  e2c_order : ∀ (salt alpha : Bytes) (H : V.G), V.encodeToCurve salt alpha = some H → V.L • H = 0
  /-- C10.  Model = specification needs it: the code hashes the Γ bytes of the proof, the RFC hashes
      `point_to_string(Γ)` -/
  encode_decode : ∀ (b : Bytes) (P : V.G), V.isCanonicalEnc b = true → V.decode b = some P → V.encode P = b

theorem order_of_cleared {I : EdIface} [AddCommGroup I.G] (hExp : ExpHyp I) (H' : I.G) :
    I.L • ((8 : ℕ) • H') = 0 := by
  rw [smul_smul, mul_comm]; exact hExp H'

theorem slices3 {a b c : Bytes} {n m k : ℕ} (ha : a.size = n) (hb : b.size = m) (hc : c.size = k) :
    bslice (a ++ b ++ c) 0 n = a ∧ bslice (a ++ b ++ c) n m = b ∧ bslice (a ++ b ++ c) (n + m) k = c := by
  subst ha hb hc
  unfold bslice
  refine ⟨?_, ?_, ?_⟩
  · rw [ByteArray.append_assoc]
    exact ByteArray.extract_append_eq_left (Nat.zero_add _)
  · rw [ByteArray.append_assoc]
    exact (ByteArray.extract_append_size_add (i := 0)).trans (ByteArray.extract_append_eq_left rfl)
  · exact ByteArray.extract_append_eq_right ByteArray.size_append.symm (by rw [ByteArray.size_append])

section Decode
variable (V : VrfIface)

theorem challenge_lt (y : Option Bytes) (hs gs : Bytes) (U W : V.G) :
    SpecG.challenge V y hs gs U W < 2 ^ 128 := by
  have h16 : (256 : ℕ) ^ cLen = 2 ^ 128 := by norm_num [cLen]
  exact (leNat_lt _).trans_le (h16 ▸ Nat.pow_le_pow_right (by norm_num) (bslice_size_le _ 0 cLen))

theorem stringToPoint_eq_some_iff (b : Bytes) (Y : V.G) :
    SpecG.stringToPoint V b = some Y ↔ b.size = 32 ∧ V.isCanonicalEnc b = true ∧ V.decode b = some Y := by
  simp only [SpecG.stringToPoint, Option.ite_none_left_eq_some, not_not, Bool.not_eq_true', Bool.not_eq_false]

theorem stringToPoint_eq_none_iff (b : Bytes) :
    SpecG.stringToPoint V b = none ↔ b.size ≠ 32 ∨ V.isCanonicalEnc b = false ∨ V.decode b = none := by
  simp only [Option.eq_none_iff_forall_ne_some, ne_eq, stringToPoint_eq_some_iff, not_and_or, forall_or_left,
    Bool.not_eq_true]

theorem decodeProof_eq_some_iff (pi : Bytes) (Γ : V.G) (c s : ℕ) :
    SpecG.decodeProof V pi = some (Γ, c, s) ↔
      pi.size = 80 ∧ V.isCanonicalEnc (bslice pi 0 32) = true ∧ V.decode (bslice pi 0 32) = some Γ ∧
        c = leNat (bslice pi 32 16) ∧ s = leNat (bslice pi 48 32) ∧ s < V.L := by
  have hdp : SpecG.decodeProof V pi = some (Γ, c, s) ↔ pi.size = 80 ∧
      SpecG.stringToPoint V (bslice pi 0 32) = some Γ ∧ c = leNat (bslice pi 32 16) ∧ s = leNat (bslice pi 48 32) ∧
        s < V.L := by
    unfold SpecG.decodeProof
    -- `delta`, not `simp only`: the `Decidable` instances mention the constants too
    delta proofSize ptLen cLen qLen
    cases SpecG.stringToPoint V (bslice pi 0 32) with
    | none => simp
    | some g =>
      simp only [Option.ite_none_left_eq_some, not_not, ge_iff_le, not_le, Option.some.injEq, Prod.mk.injEq]
      constructor
      · rintro ⟨a, b, rfl, rfl, rfl⟩; exact ⟨a, rfl, rfl, rfl, b⟩
      · rintro ⟨a, rfl, rfl, rfl, b⟩; exact ⟨a, b, rfl, rfl, rfl⟩
  -- the length test of `stringToPoint` cannot fail on the first 32 of 80 bytes
  have h32 : pi.size = 80 → (bslice pi 0 32).size = 32 := fun hsz => bslice_size_of_le (by omega)
  rw [hdp, stringToPoint_eq_some_iff]
  exact ⟨fun ⟨a, ⟨_, b, c⟩, d⟩ => ⟨a, b, c, d⟩, fun ⟨a, b, c, d⟩ => ⟨a, ⟨h32 a, b, c⟩, d⟩⟩

/-- the disjuncts in the order of the code's checks; `c` is never a reason: every 16-byte string is a challenge -/
theorem decodeProof_eq_none_iff (pi : Bytes) :
    SpecG.decodeProof V pi = none ↔
      pi.size ≠ 80 ∨ V.isCanonicalEnc (bslice pi 0 32) = false ∨ V.decode (bslice pi 0 32) = none ∨
        V.L ≤ leNat (bslice pi 48 32) := by
  -- the negation of `decodeProof_eq_some_iff`
  have : SpecG.decodeProof V pi ≠ none ↔ pi.size = 80 ∧ V.isCanonicalEnc (bslice pi 0 32) = true ∧
      V.decode (bslice pi 0 32) ≠ none ∧ leNat (bslice pi 48 32) < V.L := by
    simp only [Option.ne_none_iff_exists', Prod.exists, decodeProof_eq_some_iff, exists_and_left, exists_and_right,
      exists_eq_left, exists_eq, true_and]
  simpa only [ne_eq, not_not, not_and_or, Bool.not_eq_true, not_lt] using not_congr this

theorem verify_eq_some_iff_steps (withY : Bool) (pk pi alpha β : Bytes) :
    SpecG.verify V withY pk pi alpha = some β ↔
      ∃ Y Γ c s H, SpecG.stringToPoint V pk = some Y ∧ V.isSmallOrder Y = false ∧
        SpecG.decodeProof V pi = some (Γ, c, s) ∧ V.encodeToCurve pk alpha = some H ∧
        c = SpecG.challenge V (if withY then some pk else none) (V.encode H) (V.encode Γ)
          (V.add (V.smul s V.B) (V.neg (V.smul c Y))) (V.add (V.smul s H) (V.neg (V.smul c Γ))) ∧
        β = SpecG.gammaToHash V Γ := by
  unfold SpecG.verify SpecG.validateKey
  rcases SpecG.stringToPoint V pk with _ | Y
  · simp
  rcases SpecG.decodeProof V pi with _ | ⟨Γ, c, s⟩
  · simp
  rcases V.encodeToCurve pk alpha with _ | H
  · simp
  simp only [Option.some.injEq, Prod.mk.injEq, existsAndEq, true_and, Option.ite_none_left_eq_some, Bool.not_not, Bool.not_eq_true,
    Option.ite_none_right_eq_some, beq_iff_eq, eq_comm (a := β)]

end Decode

section Abstract
variable (V : VrfIface) [AddCommGroup V.G]

def VrfAccepts (withY : Bool) (pk pi alpha β : Bytes) : Prop :=
  pk.size = 32 ∧ V.isCanonicalEnc pk = true ∧ pi.size = 80 ∧ V.isCanonicalEnc (bslice pi 0 32) = true ∧
  leNat (bslice pi 48 32) < V.L ∧
  ∃ Y Γ H : V.G, V.decode pk = some Y ∧ (8 : ℕ) • Y ≠ 0 ∧ V.decode (bslice pi 0 32) = some Γ ∧
    V.encodeToCurve pk alpha = some H ∧
    leNat (bslice pi 32 16) = SpecG.challenge V (if withY then some pk else none) (V.encode H) (V.encode Γ)
      (leNat (bslice pi 48 32) • V.B - leNat (bslice pi 32 16) • Y)
      (leNat (bslice pi 48 32) • H - leNat (bslice pi 32 16) • Γ) ∧
    β = SpecG.gammaToHash V Γ

theorem verify_eq_some_iff (h : VrfLaws V) (withY : Bool) (pk pi alpha β : Bytes) :
    SpecG.verify V withY pk pi alpha = some β ↔ VrfAccepts V withY pk pi alpha β := by
  -- `verify_eq_some_iff_steps` with the two decoders spelt out and the interface operations read in the group
  simp only [verify_eq_some_iff_steps, stringToPoint_eq_some_iff, decodeProof_eq_some_iff, h.ed.isSmallOrder_eq_false_iff,
    h.ed.add_eq, h.ed.neg_eq, h.ed.smul_eq, ← sub_eq_add_neg]
  constructor
  · rintro ⟨Y, Γ, c, s, H, ⟨a1, a2, a3⟩, hY, ⟨b1, b2, b3, rfl, rfl, b6⟩, hH, hc, hβ⟩
    exact ⟨a1, a2, b1, b2, b6, Y, Γ, H, a3, hY, b3, hH, hc, hβ⟩
  · rintro ⟨a1, a2, b1, b2, b6, Y, Γ, H, a3, hY, b3, hH, hc, hβ⟩
    exact ⟨Y, Γ, _, _, H, ⟨a1, a2, a3⟩, hY, ⟨b1, b2, b3, rfl, rfl, b6⟩, hH, hc, hβ⟩

/-- C15: on success `Verify` returns `ProofToHash(π)`, for any proof string -/
theorem vrf_verify_eq_proofToHash (withY : Bool) (pk pi alpha β : Bytes)
    (hv : SpecG.verify V withY pk pi alpha = some β) : SpecG.proofToHash V pi = some β := by
  obtain ⟨Y, Γ, c, s, H, -, -, hπ, -, -, rfl⟩ := (verify_eq_some_iff_steps V withY pk pi alpha β).1 hv
  rw [SpecG.proofToHash, hπ]
  rfl

/-- C15, exactness of rejection: the disjuncts in the order of the code's checks (encode-to-curve never fails for this
    suite) -/
theorem vrf_reject_iff (h : VrfLaws V) (withY : Bool) (pk pi alpha : Bytes) :
    SpecG.verify V withY pk pi alpha = none ↔
      pk.size ≠ 32 ∨ V.isCanonicalEnc pk = false ∨ V.decode pk = none ∨
      (∃ Y, V.decode pk = some Y ∧ (8 : ℕ) • Y = 0) ∨
      pi.size ≠ 80 ∨ V.isCanonicalEnc (bslice pi 0 32) = false ∨ V.decode (bslice pi 0 32) = none ∨
      V.L ≤ leNat (bslice pi 48 32) ∨
      V.encodeToCurve pk alpha = none ∨
      (∃ Y Γ H : V.G, V.decode pk = some Y ∧ V.decode (bslice pi 0 32) = some Γ ∧
        V.encodeToCurve pk alpha = some H ∧
        leNat (bslice pi 32 16) ≠ SpecG.challenge V (if withY then some pk else none) (V.encode H) (V.encode Γ)
          (leNat (bslice pi 48 32) • V.B - leNat (bslice pi 32 16) • Y)
          (leNat (bslice pi 48 32) • H - leNat (bslice pi 32 16) • Γ)) := by
  -- the disjuncts are the negations of the components of `VrfAccepts`
  rw [Option.eq_none_iff_forall_ne_some]
  constructor
  · -- if none holds, the values that the checks produce make up `VrfAccepts`
    intro hn
    by_contra hd
    simp only [not_or, not_not, Bool.not_eq_false, not_le, ← ne_eq, Option.ne_none_iff_exists'] at hd
    obtain ⟨a1, a2, ⟨Y, hY⟩, hY8, b1, b2, ⟨Γ, hΓ⟩, b4, ⟨H, hH⟩, hc⟩ := hd
    refine hn _ ((verify_eq_some_iff V h withY pk pi alpha _).2
      ⟨a1, a2, b1, b2, b4, Y, Γ, H, hY, fun e => hY8 ⟨Y, hY, e⟩, hΓ, hH, ?_, rfl⟩)
    exact not_not.1 fun e => hc ⟨Y, Γ, H, hY, hΓ, hH, e⟩
  · -- the components of `VrfAccepts` refute all but the last, and the last says that the challenge differs
    intro hd β hβ
    obtain ⟨a1, a2, b1, b2, b4, Y, Γ, H, hY, hY8, hΓ, hH, hc, -⟩ := (verify_eq_some_iff V h withY pk pi alpha β).1 hβ
    simp only [a1, a2, hY, hY8, b1, b2, hΓ, not_le.2 b4, hH, ne_eq, not_true_eq_false, reduceCtorEq, Bool.true_eq_false,
      Option.some.injEq, existsAndEq, and_false, true_and, false_or] at hd
    exact hd hc

end Abstract

section Complete
variable (V : VrfIface) [AddCommGroup V.G]

def honestC (withY : Bool) (x k : ℕ) (y : Bytes) (H : V.G) : ℕ :=
  SpecG.challenge V (if withY then some y else none) (V.encode H) (V.encode (x • H)) (k • V.B) (k • H)

theorem decodeProof_proveH (h : VrfLaws V) (withY : Bool) (x k : ℕ) (y : Bytes) (H : V.G) :
    SpecG.decodeProof V (SpecG.proveH V withY x k y H)
      = some (x • H, honestC V withY x k y H, (k + honestC V withY x k y H * x) % V.L) := by
  set c := honestC V withY x k y H
  set s := (k + c * x) % V.L
  have hs : s < V.L := Nat.mod_lt _ h.ed.L_prime.pos
  have hc16 : c % 256 ^ 16 = c := Nat.mod_eq_of_lt ((challenge_lt V _ _ _ _ _).trans_eq (by norm_num))
  have hs32 : s % 256 ^ 32 = s := Nat.mod_eq_of_lt (hs.trans (h.ed.L_lt.trans_eq (by norm_num)))
  have e : SpecG.proveH V withY x k y H = V.encode (x • H) ++ natLE c 16 ++ natLE s 32 := by
    simp only [SpecG.proveH, h.ed.smul_eq, cLen, qLen]
    rfl
  obtain ⟨h1, h2, h3⟩ := slices3 (h.ed.encode_size (x • H)) (natLE_size c 16) (natLE_size s 32)
  rw [e, decodeProof_eq_some_iff, h1, h2, h3, leNat_natLE, leNat_natLE, hc16, hs32]
  refine ⟨?_, h.ed.canonical_encode _, h.ed.decode_encode _, rfl, rfl, hs⟩
  rw [ByteArray.size_append, ByteArray.size_append, h.ed.encode_size, natLE_size, natLE_size]

theorem proofToHash_proveH (h : VrfLaws V) (withY : Bool) (x k : ℕ) (y : Bytes) (H : V.G) :
    SpecG.proofToHash V (SpecG.proveH V withY x k y H) = some (SpecG.gammaToHash V (x • H)) := by
  rw [SpecG.proofToHash, decodeProof_proveH V h]; rfl

/-- β is the same with the deterministic nonce or added randomness, with the RFC 9381 or the draft-10 challenge -/
theorem beta_indep_nonce (h : VrfLaws V) (withY withY' : Bool) (x k k' : ℕ) (y : Bytes) (H : V.G) :
    SpecG.proofToHash V (SpecG.proveH V withY x k y H) = SpecG.proofToHash V (SpecG.proveH V withY' x k' y H) := by
  rw [proofToHash_proveH V h, proofToHash_proveH V h]

/-- C15 completeness for a given `H = encode_to_curve(pk, alpha)` -/
theorem vrf_complete_H (h : VrfLaws V) (withY : Bool) (x k : ℕ) (pk alpha : Bytes) (H : V.G)
    (hpk : pk.size = 32) (hcan : V.isCanonicalEnc pk = true) (hdec : V.decode pk = some (x • V.B))
    (hY : (8 : ℕ) • (x • V.B) ≠ 0) (hH : V.encodeToCurve pk alpha = some H) :
    SpecG.verify V withY pk (SpecG.proveH V withY x k pk H) alpha = some (SpecG.gammaToHash V (x • H)) := by
  obtain ⟨b1, b2, b3, hc, hs, b6⟩ := (decodeProof_eq_some_iff V _ _ _ _).1 (decodeProof_proveH V h withY x k pk H)
  rw [verify_eq_some_iff V h]
  refine ⟨hpk, hcan, b1, b2, hs ▸ b6, x • V.B, x • H, H, hdec, hY, b3, hH, ?_, rfl⟩
  -- the two verification equations hold exactly for an honest proof: `[s]P − [c]([x]P) = [k]P` for `P = B`, `P = H`
  rw [← hc, ← hs, response_equation h.ed.L_B, response_equation (h.e2c_order _ _ _ hH)]
  rfl

/-- C15 completeness for the key the library derives, `pk = encode (x•B)`: every proof that `proveWith` outputs verifies,
    and `verify` returns its `proofToHash`.  `hY` follows from `x ≢ 0 (mod L)` (`vrf_complete_honest`), which
    `expandKey_not_dvd` gives for library keys. -/
theorem vrf_complete (h : VrfLaws V) (withY : Bool) (x k : ℕ) (alpha π : Bytes)
    (hY : (8 : ℕ) • (x • V.B) ≠ 0)
    (hπ : SpecG.proveWith V withY x k (V.encode (x • V.B)) alpha = some π) :
    SpecG.verify V withY (V.encode (x • V.B)) π alpha = SpecG.proofToHash V π ∧
      (SpecG.proofToHash V π).isSome = true := by
  obtain ⟨H, hH, rfl⟩ := Option.map_eq_some_iff.1 hπ
  rw [vrf_complete_H V h withY x k _ alpha H (h.ed.encode_size _) (h.ed.canonical_encode _) (h.ed.decode_encode _)
    hY hH, proofToHash_proveH V h]
  exact ⟨rfl, rfl⟩

theorem proveWith_isSome (withY : Bool) (x k : ℕ) (y alpha : Bytes) :
    (SpecG.proveWith V withY x k y alpha).isSome = (V.encodeToCurve y alpha).isSome := by
  unfold SpecG.proveWith; cases V.encodeToCurve y alpha <;> rfl

theorem vrf_complete_honest (h : VrfLaws V) (hOrd : OrderExact V.toEdIface) (withY : Bool) (x k : ℕ)
    (alpha π : Bytes) (hx : ¬ V.L ∣ x)
    (hπ : SpecG.proveWith V withY x k (V.encode (x • V.B)) alpha = some π) :
    SpecG.verify V withY (V.encode (x • V.B)) π alpha = SpecG.proofToHash V π ∧
      (SpecG.proofToHash V π).isSome = true :=
  vrf_complete V h withY x k alpha π (not_smallOrder_of_order V.toEdIface h.ed hOrd hx) hπ

end Complete

section Beta
variable (V : VrfIface) [AddCommGroup V.G]

theorem gammaToHash_congr (h : VrfLaws V) {Γ₁ Γ₂ : V.G} (h8 : (8 : ℕ) • Γ₁ = (8 : ℕ) • Γ₂) :
    SpecG.gammaToHash V Γ₁ = SpecG.gammaToHash V Γ₂ := by
  unfold SpecG.gammaToHash; rw [h.mul8_eq, h.mul8_eq, h8]

/-- C15: the output depends only on `8•Γ` -/
theorem beta_of_8gamma (h : VrfLaws V) (Γ T : V.G) (hT : (8 : ℕ) • T = 0) :
    SpecG.gammaToHash V (Γ + T) = SpecG.gammaToHash V Γ :=
  gammaToHash_congr V h (by rw [smul_add, hT, add_zero])

theorem proofToHash_of_8gamma (h : VrfLaws V) {π₁ π₂ : Bytes} {Γ₁ Γ₂ : V.G} {c₁ s₁ c₂ s₂ : ℕ}
    (h1 : SpecG.decodeProof V π₁ = some (Γ₁, c₁, s₁)) (h2 : SpecG.decodeProof V π₂ = some (Γ₂, c₂, s₂))
    (h8 : (8 : ℕ) • Γ₁ = (8 : ℕ) • Γ₂) : SpecG.proofToHash V π₁ = SpecG.proofToHash V π₂ := by
  unfold SpecG.proofToHash
  rw [h1, h2]
  exact congrArg some (gammaToHash_congr V h h8)

end Beta

section Framing
variable (V : VrfIface) [AddCommGroup V.G]

theorem challengeInput_size (h : VrfLaws V) (y : Option Bytes) (hs gs : Bytes) (U W : V.G) :
    (SpecG.challengeInput V y hs gs U W).size = 67 + (y.getD ByteArray.empty).size + hs.size + gs.size := by
  unfold SpecG.challengeInput
  simp only [ByteArray.size_append, h.ed.encode_size]
  have e1 : suiteString.size = 1 := rfl
  have e2 : (bytesOfList [0x02]).size = 1 := rfl
  have e3 : (bytesOfList [0x00]).size = 1 := rfl
  rw [e1, e2, e3]; omega

/-- C15: the two challenge formats never hash the same string: the RFC 9381 input has 163 bytes, the draft-10 input 131.
    So a proof made in one format poses a different hash query when verified in the other. -/
theorem vrf_framing_distinct (h : VrfLaws V) (pk hs gs hs' gs' : Bytes) (U W U' W' : V.G)
    (hpk : pk.size = 32) (h1 : hs.size = 32) (h2 : gs.size = 32) (h1' : hs'.size = 32) (h2' : gs'.size = 32) :
    (SpecG.challengeInput V (some pk) hs gs U W).size = 163 ∧
    (SpecG.challengeInput V none hs' gs' U' W').size = 131 ∧
    SpecG.challengeInput V (some pk) hs gs U W ≠ SpecG.challengeInput V none hs' gs' U' W' := by
  have a := challengeInput_size V h (some pk) hs gs U W
  have b := challengeInput_size V h none hs' gs' U' W'
  have e0 : (ByteArray.empty).size = 0 := rfl
  simp only [Option.getD_some, Option.getD_none, hpk, h1, h2, h1', h2', e0] at a b
  refine ⟨a, b, fun he => ?_⟩
  rw [he, b] at a
  cases a

/-- "The formats never cross-verify."  Not a theorem of algebra: it says that no proof can be found whose two (distinct,
    `vrf_framing_distinct`) hash queries have the same 128-bit truncated digest — a random-oracle statement.
    `cross_format_partial` is what is proved. -/
def cross_format_statement : Prop :=
  ∀ (pk π alpha β β' : Bytes), SpecG.verify V true pk π alpha = some β → SpecG.verify V false pk π alpha = some β' → False

/-- a proof accepted under both formats exhibits the two framings of the same `(H, Γ, U, W)` with the same truncated hash
    (the `c` field).  Missing for `cross_format_statement`: that no such pair can be found (random oracle). -/
theorem cross_format_partial (h : VrfLaws V) (pk π alpha β β' : Bytes)
    (hv : SpecG.verify V true pk π alpha = some β) (hv' : SpecG.verify V false pk π alpha = some β') :
    ∃ m m' : Bytes, m.size = 163 ∧ m'.size = 131 ∧ m ≠ m' ∧
      leNat (bslice (V.hash512 m) 0 16) = leNat (bslice π 32 16) ∧
      leNat (bslice (V.hash512 m') 0 16) = leNat (bslice π 32 16) := by
  rw [verify_eq_some_iff V h] at hv hv'
  obtain ⟨a1, -, -, -, -, Y, Γ, H, hY, -, hΓ, hH, hc, -⟩ := hv
  obtain ⟨-, -, -, -, -, Y', Γ', H', hY', -, hΓ', hH', hc', -⟩ := hv'
  rw [hY] at hY'; cases hY'
  rw [hΓ] at hΓ'; cases hΓ'
  rw [hH] at hH'; cases hH'
  generalize leNat (bslice π 48 32) • V.B - leNat (bslice π 32 16) • Y = U at hc hc'
  generalize leNat (bslice π 48 32) • H - leNat (bslice π 32 16) • Γ = W at hc hc'
  obtain ⟨s1, s2, hne⟩ := vrf_framing_distinct V h pk _ _ _ _ U W U W a1 (h.ed.encode_size H) (h.ed.encode_size Γ)
    (h.ed.encode_size H) (h.ed.encode_size Γ)
  exact ⟨_, _, s1, s2, hne, hc.symm, hc'.symm⟩

end Framing

section Unique
variable (V : VrfIface) [AddCommGroup V.G]

/-- C15 uniqueness, algebraic core: for a cheating `Γ` (`8•Γ ≠ 8•(x•H)`: its β differs from the honest one) and fixed
    `(U, W)`, at most one challenge `c < L` has a response `s` (for the honest `Γ` every `c` has one).  So a cheating
    prover must make the hash of a string containing `(Γ, U, W)` hit one predetermined value: probability `2^-128` per
    query in the random-oracle model. -/
theorem vrf_unique_algebraic (h : VrfLaws V) (hExp : ExpHyp V.toEdIface) (hOrd : OrderExact V.toEdIface)
    {Y H Γ U W : V.G} {x : ℕ} (hY : (8 : ℕ) • Y = (8 : ℕ) • (x • V.B)) (hH : V.L • H = 0)
    (hΓ : (8 : ℕ) • Γ ≠ (8 : ℕ) • (x • H))
    {c₁ s₁ c₂ s₂ : ℕ} (hc₁ : c₁ < V.L) (hc₂ : c₂ < V.L)
    (hU₁ : U = s₁ • V.B - c₁ • Y) (hW₁ : W = s₁ • H - c₁ • Γ)
    (hU₂ : U = s₂ • V.B - c₂ • Y) (hW₂ : W = s₂ • H - c₂ • Γ) : c₁ = c₂ := by
  refine eq_of_lt_of_dvd_sub hc₁ hc₂ ?_
  have eB := transcripts_sub hU₁ hU₂
  have eH := transcripts_sub hW₁ hW₂
  generalize (s₁ : ℤ) - s₂ = ds at eB eH
  generalize (c₁ : ℤ) - c₂ = dc at eB eH ⊢
  have e8 : ∀ P : V.G, (8 : ℕ) • P = (8 : ℤ) • P := fun P => (natCast_zsmul P 8).symm
  -- `B` has order exactly `L`, so `L ∣ 8·(ds − dc·x)`
  have k1 : (8 * (ds - dc * x)) • V.B = 0 := by
    rw [mul_smul, sub_smul, mul_smul, eB, natCast_zsmul, ← smul_sub, smul_comm (8 : ℤ) dc, smul_sub, ← e8, ← e8, hY,
      sub_self, smul_zero]
  obtain ⟨m, hm⟩ := hOrd _ k1
  -- hence `dc • Z = 0` for `Z = 8•(Γ − x•H)`, a non-zero point killed by `L`
  refine dvd_of_zsmul_eq_zero h.ed.L_prime (Z := (8 : ℕ) • (Γ - x • H)) ?_ ?_ ?_
  · exact order_of_cleared hExp _
  · rw [smul_sub]; exact fun e => hΓ (sub_eq_zero.1 e)
  · have : dc • ((8 : ℕ) • (Γ - x • H)) = (8 * (ds - dc * x)) • H := by
      rw [e8, smul_comm dc, smul_sub, ← eH, mul_smul, sub_smul, mul_smul, natCast_zsmul]
    rw [this, hm, mul_comm, mul_smul, natCast_zsmul, hH, smul_zero]

/-- Full uniqueness (RFC 9381 §3.1).  Not a theorem of algebra (it fails for a hash that the adversary can invert);
    `full_uniqueness_partial` is what is proved. -/
def full_uniqueness_statement : Prop :=
  ∀ (withY : Bool) (pk alpha π₁ π₂ β₁ β₂ : Bytes),
    SpecG.verify V withY pk π₁ alpha = some β₁ → SpecG.verify V withY pk π₂ alpha = some β₂ → β₁ = β₂

/-- every accepted proof either yields the honest output or has a cheating Γ, and then its challenge `c` — the hash of a
    string containing `Γ, U, W` — is the only `c' < L` for which `(U, W)` admit a response.  Missing for
    `full_uniqueness_statement`: that a hash output hits a value predetermined by its input only with probability
    `2^-128` per query (random oracle). -/
theorem full_uniqueness_partial (h : VrfLaws V) (hExp : ExpHyp V.toEdIface) (hOrd : OrderExact V.toEdIface)
    (withY : Bool) (pk alpha π β : Bytes) {Y H : V.G} {x : ℕ} (hpk : V.decode pk = some Y)
    (hY : (8 : ℕ) • Y = (8 : ℕ) • (x • V.B)) (hH : V.encodeToCurve pk alpha = some H)
    (hL : 2 ^ 128 ≤ V.L)
    (hv : SpecG.verify V withY pk π alpha = some β) :
    β = SpecG.gammaToHash V (x • H) ∨
    ∃ Γ : V.G, V.decode (bslice π 0 32) = some Γ ∧ (8 : ℕ) • Γ ≠ (8 : ℕ) • (x • H) ∧
      let c := leNat (bslice π 32 16)
      let s := leNat (bslice π 48 32)
      let U := s • V.B - c • Y
      let W := s • H - c • Γ
      c = SpecG.challenge V (if withY then some pk else none) (V.encode H) (V.encode Γ) U W ∧
      ∀ c' s' : ℕ, c' < V.L → U = s' • V.B - c' • Y → W = s' • H - c' • Γ → c' = c := by
  rw [verify_eq_some_iff V h] at hv
  obtain ⟨-, -, -, -, -, Y', Γ, H', hY', -, hΓ, hH', hc, hβ⟩ := hv
  rw [hpk] at hY'; cases hY'
  rw [hH] at hH'; cases hH'
  by_cases h8 : (8 : ℕ) • Γ = (8 : ℕ) • (x • H)
  · left; rw [hβ]; exact gammaToHash_congr V h h8
  · right
    refine ⟨Γ, hΓ, h8, hc, ?_⟩
    intro c' s' hc' hU hW
    have hclt : leNat (bslice π 32 16) < V.L := by
      rw [hc]; exact lt_of_lt_of_le (challenge_lt V _ _ _ _ _) hL
    exact vrf_unique_algebraic V h hExp hOrd hY (h.e2c_order _ _ _ hH) h8 hc' hclt hU hW rfl rfl

theorem unique_of_honest_gamma (h : VrfLaws V) (withY : Bool) (pk alpha π₁ π₂ β₁ β₂ : Bytes) {Γ₁ Γ₂ : V.G}
    (hΓ₁ : V.decode (bslice π₁ 0 32) = some Γ₁) (hΓ₂ : V.decode (bslice π₂ 0 32) = some Γ₂)
    (h8 : (8 : ℕ) • Γ₁ = (8 : ℕ) • Γ₂)
    (hv₁ : SpecG.verify V withY pk π₁ alpha = some β₁) (hv₂ : SpecG.verify V withY pk π₂ alpha = some β₂) :
    β₁ = β₂ := by
  rw [verify_eq_some_iff V h] at hv₁ hv₂
  obtain ⟨-, -, -, -, -, -, Γ₁', -, -, -, e1, -, -, rfl⟩ := hv₁
  obtain ⟨-, -, -, -, -, -, Γ₂', -, -, -, e2, -, -, rfl⟩ := hv₂
  rw [hΓ₁] at e1; cases e1
  rw [hΓ₂] at e2; cases e2
  exact gammaToHash_congr V h h8

end Unique

section ModelEqSpec
variable (V : VrfIface)

theorem bytes_04_02 : bytesOfList [0x04, 0x02] = suiteString ++ bytesOfList [0x02] := by decide
theorem bytes_04_03 : bytesOfList [0x04, 0x03] = suiteString ++ bytesOfList [0x03] := by decide

/-- `copy(cString[:16], x); c.SetBits(cString[:])` -/
theorem setBits_pad (a : Bytes) (ha : a.size ≤ 16) : setBits (a ++ bzero 16) = leNat a := by
  unfold setBits
  rw [leNat_pad]
  have h1 := leNat_lt a
  have h2 : 256 ^ a.size ≤ 256 ^ 16 := Nat.pow_le_pow_right (by norm_num) ha
  apply Nat.mod_eq_of_lt
  have : (256 : ℕ) ^ 16 < 2 ^ 255 := by norm_num
  omega

/-- the `len(p1) > 0` test only skips an empty write -/
theorem challengeGeneration_eq (y : Option Bytes) (hs gs : Bytes) (U W : V.G) :
    challengeGeneration V (y.getD ByteArray.empty) hs gs U W = SpecG.challenge V y hs gs U W := by
  unfold challengeGeneration SpecG.challenge SpecG.challengeInput
  simp only [cLen]
  rw [setBits_pad _ (bslice_size_le _ 0 16), bytes_04_02]
  by_cases hp : (y.getD ByteArray.empty).size > 0
  · rw [if_pos hp]
  · rw [if_neg hp]
    have : y.getD ByteArray.empty = ByteArray.empty := ByteArray.size_eq_zero_iff.1 (by omega)
    rw [this, ByteArray.append_empty]

/-- the nil slice of the pre-v11 format is the absent key string of the specification -/
theorem challengeGeneration_ite (b : Bool) (y hs gs : Bytes) (U W : V.G) :
    challengeGeneration V (if b then y else ByteArray.empty) hs gs U W
      = SpecG.challenge V (if b then some y else none) hs gs U W := by
  rw [← challengeGeneration_eq]
  cases b <;> rfl

theorem gammaToHash_eq (Γ : V.G) : gammaToHash V Γ = SpecG.gammaToHash V Γ := by
  unfold gammaToHash SpecG.gammaToHash
  rw [bytes_04_03]

variable [AddCommGroup V.G]

theorem decodeProof_eq (h : VrfLaws V) (pi : Bytes) : decodeProof V pi = SpecG.decodeProof V pi := by
  ext ⟨Γ, c, s⟩
  rw [decodeProof_eq_some_iff]
  simp only [decodeProof]
  cases V.decode (bslice pi 0 32) with
  | none => simp
  | some g =>
    simp only [Option.ite_none_left_eq_some, not_not, Bool.not_eq_true', Bool.not_eq_false, Option.some.injEq, Prod.mk.injEq]
    rw [setBits_pad _ (bslice_size_le _ 32 16)]
    -- `ScMinimalVartime` is `s < L` on 32 bytes, and then `SetBytesModOrder` reduces nothing
    constructor
    · rintro ⟨a, b, m, rfl, rfl, rfl⟩
      have hs := (h.ed.scMinimal_iff _ (bslice_size_of_le (by omega))).1 m
      rw [Nat.mod_eq_of_lt hs]
      exact ⟨a, b, rfl, rfl, rfl, hs⟩
    · rintro ⟨a, b, rfl, rfl, rfl, hs⟩
      exact ⟨a, b, (h.ed.scMinimal_iff _ (bslice_size_of_le (by omega))).2 hs, rfl, rfl, Nat.mod_eq_of_lt hs⟩

theorem proofToHash_eq (h : VrfLaws V) (pi : Bytes) : proofToHash V pi = SpecG.proofToHash V pi := by
  unfold proofToHash SpecG.proofToHash
  rw [decodeProof_eq V h]
  rcases SpecG.decodeProof V pi with _ | ⟨Γ, c, s⟩
  · rfl
  · simp only [Option.map_some, gammaToHash_eq]

/-- `vrf_model_eq_spec` and `doVerify_panic_iff` by one case analysis -/
theorem doVerify_spec (h : VrfLaws V) (pk pi alpha : Bytes) (draftPreV11 : Bool) :
    (doVerify V pk pi alpha draftPreV11).toOption = SpecG.verify V (!draftPreV11) pk pi alpha ∧
    (doVerify V pk pi alpha draftPreV11 = .panic ↔
      (∃ Y, SpecG.stringToPoint V pk = some Y ∧ V.isSmallOrder Y = false) ∧ (SpecG.decodeProof V pi).isSome = true ∧
        V.encodeToCurve pk alpha = none) := by
  unfold doVerify SpecG.verify SpecG.stringToPoint SpecG.validateKey
  rw [decodeProof_eq V h]
  by_cases a1 : pk.size = 32
  case neg => simp [a1, VOut.toOption]
  by_cases a2 : V.isCanonicalEnc pk = true
  case neg => simp [a1, a2, VOut.toOption]
  rcases a3 : V.decode pk with _ | Y
  · simp [a1, a2, VOut.toOption]
  by_cases a4 : V.isSmallOrder Y = true
  · simp [a1, a2, a4, VOut.toOption]
  rcases b : SpecG.decodeProof V pi with _ | ⟨Γ, c, s⟩
  · simp [a1, a2, a4, VOut.toOption]
  rcases e : V.encodeToCurve pk alpha with _ | H
  · simp [a1, a2, a4, VOut.toOption]
  -- the two multi-scalar multiplications by value, and the Γ bytes of the proof for `point_to_string(Γ)`
  have hU : Voi.Model.Ed25519.doubleScalarMulBasepoint V.toEdIface c (V.neg Y) s
      = V.add (V.smul s V.B) (V.neg (V.smul c Y)) := by
    rw [double_value h.ed, h.ed.add_eq, h.ed.neg_eq, h.ed.neg_eq, h.ed.smul_eq, h.ed.smul_eq, smul_neg]; abel
  have hW : V.add (V.smul s H) (V.smul c (V.neg Γ)) = V.add (V.smul s H) (V.neg (V.smul c Γ)) := by
    simp only [h.ed.neg_eq, h.ed.smul_eq, smul_neg]
  have hg : bslice pi 0 32 = V.encode Γ := by
    obtain ⟨-, g2, g3, -⟩ := (decodeProof_eq_some_iff V pi Γ c s).1 b
    exact (h.encode_decode _ _ g2 g3).symm
  simp only [a1, ne_eq, not_true_eq_false, if_false, a2, Bool.not_true, Bool.false_eq_true, a4, hg,
    challengeGeneration_ite, hU, hW, gammaToHash_eq]
  generalize SpecG.challenge V _ _ _ _ _ = cc
  by_cases hc : c = cc <;> simp [hc, VOut.toOption]

/-- C15, model = specification, verification: what `doVerify` returns (`(true, β)` ↦ `some β`, `(false, nil)` and the h2c
    panic ↦ `none`) is `ECVRF_verify`, for byte strings of all lengths and both formats. -/
theorem vrf_model_eq_spec (h : VrfLaws V) (pk pi alpha : Bytes) (draftPreV11 : Bool) :
    (doVerify V pk pi alpha draftPreV11).toOption = SpecG.verify V (!draftPreV11) pk pi alpha :=
  (doVerify_spec V h pk pi alpha draftPreV11).1

theorem doVerify_panic_iff (h : VrfLaws V) (pk pi alpha : Bytes) (draftPreV11 : Bool) :
    doVerify V pk pi alpha draftPreV11 = .panic ↔
      (∃ Y, SpecG.stringToPoint V pk = some Y ∧ V.isSmallOrder Y = false) ∧ (SpecG.decodeProof V pi).isSome = true ∧
        V.encodeToCurve pk alpha = none :=
  (doVerify_spec V h pk pi alpha draftPreV11).2

/-- `doProve` writes `c.ToBytes` into bytes 32..63, then `s.ToBytes` over bytes 48..79 -/
theorem proof_layout (g : Bytes) (hg : g.size = 32) (c s : ℕ) :
    bslice (g ++ natLE c 32 ++ bzero 16) 0 48 ++ natLE s 32 = g ++ natLE c 16 ++ natLE s 32 := by
  have e : natLE c 32 = natLE c 16 ++ natLE (c / 256 ^ 16) 16 := natLE_add c 16 16
  rw [e]
  congr 1
  unfold bslice
  have : g ++ (natLE c 16 ++ natLE (c / 256 ^ 16) 16) ++ bzero 16
      = (g ++ natLE c 16) ++ (natLE (c / 256 ^ 16) 16 ++ bzero 16) := by
    simp only [ByteArray.append_assoc]
  rw [this]
  exact ByteArray.extract_append_eq_left (by rw [ByteArray.size_append, hg, natLE_size])

/-- steps 6–8 of `doProve`; `ToBytes` reduces `c` and `s` once more -/
theorem doProve_assembled (h : VrfLaws V) (hL : 2 ^ 128 ≤ V.L) (withY : Bool) (x k : ℕ) (y : Bytes) (H : V.G) {c : ℕ}
    (hc : c = SpecG.challenge V (if withY then some y else none) (V.encode H) (V.encode (V.smul x H)) (V.smul k V.B)
      (V.smul k H)) :
    bslice (V.encode (V.smul x H) ++ natLE (c % V.L) 32 ++ bzero 16) 0 48 ++ natLE (((c * x) % V.L + k) % V.L % V.L) 32
      = SpecG.proveH V withY x k y H := by
  have hclt : c < V.L := hc ▸ lt_of_lt_of_le (challenge_lt V _ _ _ _ _) hL
  unfold SpecG.proveH
  simp only [cLen, qLen]
  rw [← hc, Nat.mod_eq_of_lt hclt, Nat.mod_mod, proof_layout _ (h.ed.encode_size _), Nat.mod_add_mod, Nat.add_comm]

/-- C15, model = specification, proving: `doProve` (`rand = none`: deterministic; `some e`: a reader over `e`, of which 32
    bytes are consumed, fewer is an error) is `ECVRF_prove` with the RFC 8032 key expansion and the §5.4.2.2 nonce.
    `hL`: a 128-bit challenge is a reduced scalar. -/
theorem vrf_model_eq_spec_prove (h : VrfLaws V) (hL : 2 ^ 128 ≤ V.L) (rand : Option Bytes) (sk alpha : Bytes)
    (draftPreV11 : Bool) :
    doProve V rand sk alpha draftPreV11 =
      match rand with
      | none => SpecG.prove V (!draftPreV11) none sk alpha
      | some e => if e.size < 32 then none else SpecG.prove V (!draftPreV11) (some (bslice e 0 32)) sk alpha := by
  unfold doProve SpecG.prove
  by_cases hsk : sk.size = 64
  case neg => rcases rand with _ | e <;> simp [hsk]
  simp only [hsk, ne_eq, not_true_eq_false, if_false]
  rcases hH : V.encodeToCurve (bslice sk 32 32) alpha with _ | H
  · rcases rand with _ | e <;> simp
  rcases rand with _ | e
  · simp only [Option.map_some]
    exact congrArg some (doProve_assembled V h hL _ _ _ _ _ (challengeGeneration_ite V _ _ _ _ _ _))
  · by_cases he : e.size < 32
    · simp [he]
    · simp only [he, if_false, Option.map_some]
      exact congrArg some (doProve_assembled V h hL _ _ _ _ _ (challengeGeneration_ite V _ _ _ _ _ _))

theorem concrete_hL : 2 ^ 128 ≤ concrete.L := by decide

end ModelEqSpec

/-! Non-vacuity: the toy instance of C01 (`G = ℤ/104`, `B = 8`, `L = 13`, identity "hash") -/
namespace Toy
open Voi.Props.C01.Toy Voi.Props.C02.Toy

abbrev toyV : VrfIface where
  toEdIface := toy
  mul8 := fun P => (8 : ℕ) • P
  encodeToCurve := fun salt alpha => some ((8 : ℕ) • ((leNat (salt ++ alpha) : ℕ) : ZMod 104))

theorem toyV_laws : VrfLaws toyV where
  ed := toy_laws
  mul8_eq := fun _ => rfl
  e2c_order := by
    intro salt alpha H hH
    cases hH
    exact order_of_cleared (I := toy) toy_exp _
  encode_decode := by
    intro b P hc hd
    have hc' : (match dec b with | some Q => Voi.beq (enc Q) b | none => false) = true := hc
    have hd' : dec b = some P := hd
    rw [hd'] at hc'
    exact (Bytes.beq_iff _ _).1 hc'

/-- the hypotheses of `vrf_complete_honest` are jointly satisfiable -/
example (withY : Bool) (k : ℕ) (alpha π : Bytes)
    (hπ : SpecG.proveWith toyV withY 3 k (toyV.encode ((3 : ℕ) • toyV.B)) alpha = some π) :
    SpecG.verify toyV withY (toyV.encode ((3 : ℕ) • toyV.B)) π alpha = SpecG.proofToHash toyV π ∧
      (SpecG.proofToHash toyV π).isSome = true :=
  vrf_complete_honest toyV toyV_laws toy_order withY 3 k alpha π (by decide) hπ

/-- … and its `hπ` has a witness -/
example (withY : Bool) (k : ℕ) (alpha : Bytes) :
    (SpecG.proveWith toyV withY 3 k (toyV.encode ((3 : ℕ) • toyV.B)) alpha).isSome = true := by
  rw [proveWith_isSome]; rfl

def pkT : Bytes := enc 24
def alphaT : Bytes := bytesOfList [7]
def piT : Bytes := (SpecG.proveWith toyV true 3 5 pkT alphaT).getD ByteArray.empty

example : piT.size = 80 := by decide +kernel
/-- `Γ = 3•H = 24` -/
theorem piT_valid : SpecG.verify toyV true pkT piT alphaT = some (SpecG.gammaToHash toyV 24) := by decide +kernel
example : SpecG.verify toyV true pkT piT alphaT = SpecG.proofToHash toyV piT :=
  piT_valid.trans (vrf_verify_eq_proofToHash toyV _ _ _ _ _ piT_valid).symm
example : (SpecG.verify toyV true pkT piT alphaT).isSome = true := by rw [piT_valid]; rfl
-- rejected: `s + L`, a 79-byte proof, a small-order key
example : SpecG.verify toyV true pkT (bslice piT 0 48 ++ natLE (leNat (bslice piT 48 32) + 13) 32) alphaT = none := by
  decide +kernel
example : SpecG.verify toyV true pkT (bslice piT 0 79) alphaT = none := by decide +kernel
example : SpecG.verify toyV true (enc 13) piT alphaT = none := by decide +kernel

/-- a cheating Γ: `16`, while `x•H = 24` -/
def piCheat : Bytes := enc 16 ++ bslice piT 32 16 ++ natLE 0 32

theorem piCheat_valid : SpecG.verify toyV true pkT piCheat alphaT = some (SpecG.gammaToHash toyV 16) := by
  decide +kernel
theorem outputs_ne : SpecG.gammaToHash toyV 16 ≠ SpecG.gammaToHash toyV 24 := by decide +kernel
example : (SpecG.verify toyV true pkT piCheat alphaT).isSome = true ∧
    SpecG.verify toyV true pkT piCheat alphaT ≠ SpecG.verify toyV true pkT piT alphaT := by
  rw [piCheat_valid, piT_valid]
  exact ⟨rfl, fun e => outputs_ne (Option.some.inj e)⟩

/-- `full_uniqueness_statement` does not follow from the laws: the toy "hash" is the identity, so the challenge is
    predictable and `piCheat` is accepted with another output -/
theorem toy_not_full_uniqueness : ¬ full_uniqueness_statement toyV :=
  fun hu => outputs_ne (hu true pkT alphaT piCheat piT _ _ piCheat_valid piT_valid)

/-- the second branch of the conclusion of `full_uniqueness_partial` is inhabited (the theorem itself does not apply:
    `2^128 ≤ L` fails for `L = 13`) -/
example : ∃ Γ : toyV.G, toyV.decode (bslice piCheat 0 32) = some Γ ∧ (8 : ℕ) • Γ ≠ (8 : ℕ) • ((3 : ℕ) • (8 : ZMod 104)) :=
  ⟨16, by decide +kernel, by decide +kernel⟩

example (pk pi alpha : Bytes) (pre : Bool) :
    (doVerify toyV pk pi alpha pre).toOption = SpecG.verify toyV (!pre) pk pi alpha :=
  vrf_model_eq_spec toyV toyV_laws pk pi alpha pre

end Toy

end Voi.Props.C15

section Axioms
open Voi.Props.C15
#print axioms specG_stringToPoint_concrete
#print axioms specG_challenge_concrete
#print axioms specG_gammaToHash_concrete
#print axioms specG_decodeProof_concrete
#print axioms specG_proofToHash_concrete
#print axioms specG_verify_concrete
#print axioms expandKey_not_dvd
#print axioms order_of_cleared
#print axioms challenge_lt
#print axioms stringToPoint_eq_some_iff
#print axioms stringToPoint_eq_none_iff
#print axioms decodeProof_eq_some_iff
#print axioms decodeProof_eq_none_iff
#print axioms verify_eq_some_iff_steps
#print axioms verify_eq_some_iff
#print axioms vrf_verify_eq_proofToHash
#print axioms vrf_reject_iff
#print axioms decodeProof_proveH
#print axioms proofToHash_proveH
#print axioms beta_indep_nonce
#print axioms vrf_complete_H
#print axioms vrf_complete
#print axioms vrf_complete_honest
#print axioms gammaToHash_congr
#print axioms beta_of_8gamma
#print axioms proofToHash_of_8gamma
#print axioms challengeInput_size
#print axioms vrf_framing_distinct
#print axioms cross_format_partial
#print axioms vrf_unique_algebraic
#print axioms full_uniqueness_partial
#print axioms unique_of_honest_gamma
#print axioms specG_prove_concrete'
#print axioms setBits_pad
#print axioms challengeGeneration_eq
#print axioms gammaToHash_eq
#print axioms decodeProof_eq
#print axioms proofToHash_eq
#print axioms doVerify_spec
#print axioms vrf_model_eq_spec
#print axioms doVerify_panic_iff
#print axioms proof_layout
#print axioms doProve_assembled
#print axioms vrf_model_eq_spec_prove
#print axioms Toy.toyV_laws
#print axioms Toy.piT_valid
#print axioms Toy.piCheat_valid
#print axioms Toy.toy_not_full_uniqueness
end Axioms

/-
Property C18 (LRU part).  `Inv`, the representation invariant of `Model.LRU`, holds after every operation history on
a fresh cache of positive capacity, `Put(k, nil)` included (`inv_run`).  Under it the model refines the abstract
`Spec.LRU` at the value type `Option V` (a stored nil pointer is a value like any other): `abs` commutes with every
step, and the model's output is the abstract output flattened, `Get` returning nil both for an absent key and for a
key bound to nil (`refine_run`).  Two facts are proved about `Spec.LRU` and carried over to the model: every cached
binding was supplied by a `put` of that key and value, and the cached keys are the first `cap` keys of Mattson's LRU
stack of the history.  Theorems about `Spec.LRU` alone are named `Spec.…` (`Voi.Props.LRUInv.Spec.…`); inside
statements `Spec.LRU.…` is `Voi.Spec.LRU.…`.
-/
import Voi.Model.LRU
namespace Voi.Props.LRUInv
open Voi.Spec.LRU (lookup eraseKey touch stackStep stackRun)
open Voi.Model Voi.Model.LRU

variable {K V : Type} [DecidableEq K]

/-- through this, what follows about filtering and membership is read off the library's `find?` lemmas -/
theorem lookup_eq_find? {α : Type} (k : K) (l : List (K × α)) :
    lookup k l = (l.find? (fun p => p.1 = k)).map Prod.snd := by
  induction l with
  | nil => rfl
  | cons hd t ih =>
    rw [lookup, List.find?_cons]
    split <;> simp [*]

theorem lookup_eraseKey {α : Type} (k k' : K) (l : List (K × α)) :
    lookup k' (eraseKey k l) = if k' = k then none else lookup k' l := by
  rw [lookup_eq_find?, lookup_eq_find?, eraseKey, List.find?_filter]
  by_cases e : k' = k
  · rw [if_pos e, List.find?_eq_none.mpr (by simp [e]), Option.map_none]
  · rw [if_neg e]
    congr 2; funext p
    by_cases h : p.1 = k' <;> simp [h, e]

theorem lookup_isSome_iff {α : Type} (k : K) (l : List (K × α)) :
    (lookup k l).isSome ↔ k ∈ l.map Prod.fst := by
  rw [lookup_eq_find?, Option.isSome_map, List.find?_isSome]
  simp

theorem lookup_none_iff {α : Type} (k : K) (l : List (K × α)) :
    lookup k l = none ↔ k ∉ l.map Prod.fst := by
  rw [← lookup_isSome_iff]; cases lookup k l <;> simp

theorem lookup_mem {α : Type} {k : K} {l : List (K × α)} {v : α} (h : lookup k l = some v) : (k, v) ∈ l := by
  rw [lookup_eq_find?, Option.map_eq_some_iff] at h
  obtain ⟨p, hp, rfl⟩ := h
  have hk : p.1 = k := by simpa using List.find?_some hp
  exact hk ▸ List.mem_of_find?_eq_some hp

theorem lookup_insert {α : Type} (k k' : K) (v : α) (st : List (K × α)) :
    lookup k' ((k, v) :: eraseKey k st) = if k' = k then some v else lookup k' st := by
  by_cases e : k' = k
  · simp [lookup, e]
  · have e' : ¬ k = k' := fun h => e h.symm
    simp [lookup, lookup_eraseKey, e, e']

theorem filter_ne_of_not_mem (k : K) (l : List K) (h : k ∉ l) : l.filter (fun a => !decide (a = k)) = l := by
  rw [List.filter_eq_self]; intro a ha
  have : a ≠ k := fun e => h (e ▸ ha)
  simp [this]

theorem keys_eraseKey {α : Type} (k : K) (l : List (K × α)) :
    (eraseKey k l).map Prod.fst = (l.map Prod.fst).filter (fun a => !decide (a = k)) := by
  rw [List.filter_map]; rfl

theorem eraseKey_of_not_mem {α : Type} (k : K) (l : List (K × α)) (h : k ∉ l.map Prod.fst) :
    eraseKey k l = l := by
  unfold eraseKey
  rw [List.filter_eq_self]
  intro p hp
  have : p.1 ≠ k := fun e => h (e ▸ List.mem_map_of_mem (f := Prod.fst) hp)
  simp [this]

theorem perm_eraseKey {α : Type} {st : List (K × α)} {l : List K} {k : K}
    (h : (st.map Prod.fst).Perm (k :: l)) (hk : k ∉ l) : ((eraseKey k st).map Prod.fst).Perm l := by
  rw [keys_eraseKey]
  simpa [filter_ne_of_not_mem k l hk] using h.filter (fun a => !decide (a = k))

/-- the representation invariant of `lruCache` -/
structure Inv (s : State K V) : Prop where
  capPos : 0 < s.cap
  size : s.list.length ≤ s.cap
  nodup : s.list.Nodup
  keys : ∀ k, k ∈ s.list ↔ (lookup k s.store).isSome
  storeNodup : (s.store.map Prod.fst).Nodup
  storeLen : s.store.length = s.list.length

/-- the last three fields say that the store's keys are a permutation of the recency list; every operation is checked
in that form -/
theorem Inv.perm {s : State K V} (hs : Inv s) : (s.store.map Prod.fst).Perm s.list :=
  (List.perm_ext_iff_of_nodup hs.storeNodup hs.nodup).mpr fun k => by rw [hs.keys, lookup_isSome_iff]

theorem Inv.of_perm {s : State K V} (capPos : 0 < s.cap) (size : s.list.length ≤ s.cap) (nodup : s.list.Nodup)
    (perm : (s.store.map Prod.fst).Perm s.list) : Inv s :=
  ⟨capPos, size, nodup, fun k => by rw [lookup_isSome_iff, perm.mem_iff], perm.nodup_iff.mpr nodup,
   by rw [← perm.length_eq, List.length_map]⟩

theorem lookup_of_mem {s : State K V} (hs : Inv s) {k : K} (hk : k ∈ s.list) :
    ∃ w, lookup k s.store = some w :=
  Option.isSome_iff_exists.mp ((hs.keys k).mp hk)

theorem lookup_of_not_mem {s : State K V} (hs : Inv s) {k : K} (hk : k ∉ s.list) : lookup k s.store = none :=
  (lookup_none_iff k s.store).mpr (mt hs.perm.mem_iff.mp hk)

theorem inv_new {cap : Nat} (h : 0 < cap) : Inv (new cap : State K V) :=
  Inv.of_perm h (Nat.zero_le _) List.nodup_nil (List.Perm.refl _)

theorem inv_get {s : State K V} (hs : Inv s) (k : K) : Inv (LRU.get s k).1 := by
  unfold LRU.get
  cases h : lookup k s.store with
  | none => exact hs
  | some ov =>
    have hp := List.perm_cons_erase ((hs.keys k).mpr (by rw [h]; rfl))
    exact Inv.of_perm hs.capPos (hp.length_eq ▸ hs.size) (hp.nodup_iff.mp hs.nodup) (hs.perm.trans hp)

theorem evict_full {s : State K V} (hs : Inv s) (hfull : s.list.length = s.cap) :
    ∃ l kb, s.list = l ++ [kb] ∧ kb ∉ l ∧ evict s = { s with list := l, store := eraseKey kb s.store } := by
  cases hl : s.list.getLast? with
  | none =>
    have h0 := hs.capPos
    rw [List.getLast?_eq_none_iff.mp hl] at hfull
    simp at hfull; omega
  | some kb =>
    obtain ⟨l, hsplit⟩ := List.getLast?_eq_some_iff.mp hl
    have hnd := hs.nodup
    rw [hsplit, List.nodup_append] at hnd
    refine ⟨l, kb, hsplit, fun h => hnd.2.2 kb h kb (by simp) rfl, ?_⟩
    rw [evict, if_pos hfull, hl, hsplit, List.dropLast_concat]

theorem evict_not_full {s : State K V} (h : s.list.length ≠ s.cap) : evict s = s := by simp [evict, h]

theorem inv_evict {s : State K V} (hs : Inv s) :
    Inv (evict s) ∧ (evict s).list.length < s.cap ∧ (evict s).cap = s.cap := by
  by_cases hfull : s.list.length = s.cap
  · obtain ⟨l, kb, hsplit, hkb, he⟩ := evict_full hs hfull
    have hlen : l.length < s.cap := by rw [← hfull, hsplit]; simp
    have hp : s.list.Perm (kb :: l) := hsplit ▸ List.perm_append_singleton kb l
    rw [he]
    exact ⟨Inv.of_perm hs.capPos (Nat.le_of_lt hlen) (hp.nodup_iff.mp hs.nodup).of_cons
      (perm_eraseKey (hs.perm.trans hp) hkb), hlen, rfl⟩
  · rw [evict_not_full hfull]
    exact ⟨hs, Nat.lt_of_le_of_ne hs.size hfull, rfl⟩

theorem inv_insert {s : State K V} (hs : Inv s) (hlt : s.list.length < s.cap) (k : K) (ov : Option V)
    (hk : k ∉ s.list) :
    Inv { s with list := k :: s.list, store := (k, ov) :: eraseKey k s.store } := by
  rw [eraseKey_of_not_mem k s.store (mt hs.perm.mem_iff.mp hk)]
  exact Inv.of_perm hs.capPos hlt (List.nodup_cons.mpr ⟨hk, hs.nodup⟩) (hs.perm.cons k)

theorem put_eq {s : State K V} (hs : Inv s) (k : K) (ov : Option V) :
    put s k ov =
      if k ∈ s.list then (LRU.get s k).1
      else { evict s with list := k :: (evict s).list, store := (k, ov) :: eraseKey k (evict s).store } := by
  unfold put
  by_cases hk : k ∈ s.list
  · obtain ⟨w, h⟩ := lookup_of_mem hs hk
    simp [hk, h]
  · simp [hk, lookup_of_not_mem hs hk]

theorem evict_cases (s : State K V) :
    evict s = s ∨ ∃ kb, evict s = { s with list := s.list.dropLast, store := eraseKey kb s.store } := by
  unfold evict
  split
  · cases s.list.getLast? with
    | none => exact Or.inl rfl
    | some kb => exact Or.inr ⟨kb, rfl⟩
  · exact Or.inl rfl

theorem evict_list_subset {s : State K V} {k : K} (h : k ∈ (evict s).list) : k ∈ s.list := by
  rcases evict_cases s with e | ⟨kb, e⟩ <;> rw [e] at h
  · exact h
  · exact (List.dropLast_sublist _).subset h

theorem inv_put {s : State K V} (hs : Inv s) (k : K) (ov : Option V) : Inv (put s k ov) := by
  rw [put_eq hs]
  split
  · exact inv_get hs k
  · rename_i hk
    obtain ⟨hi, hlt, hc⟩ := inv_evict hs
    exact inv_insert hi (hc ▸ hlt) k ov (fun h => hk (evict_list_subset h))

/-- `Put` detects an existing key by presence; were it by a non-nil value, a `Put` after `Put(k, nil)` would add a
second list element for `k` -/
theorem inv_put_nil {s : State K V} (hs : Inv s) (k : K) : Inv (put s k none) := inv_put hs k none

theorem inv_step {s : State K V} (hs : Inv s) (op : Op K V) : Inv (step s op).1 := by
  cases op with
  | get k => exact inv_get hs k
  | put k ov => exact inv_put hs k ov

theorem inv_run_from {s : State K V} (hs : Inv s) (ops : List (Op K V)) : Inv (run s ops).1 := by
  induction ops generalizing s with
  | nil => exact hs
  | cons op ops ih => simp only [run]; exact ih (inv_step hs op)

theorem inv_run {cap : Nat} (hc : 0 < cap) (ops : List (Op K V)) :
    Inv (run (new cap : State K V) ops).1 :=
  inv_run_from (inv_new hc) ops

theorem cap_get (s : State K V) (k : K) : (LRU.get s k).1.cap = s.cap := by
  unfold LRU.get; cases lookup k s.store <;> rfl

theorem store_get (s : State K V) (k : K) : (LRU.get s k).1.store = s.store := by
  unfold LRU.get; cases lookup k s.store <;> rfl

/-- `Get` cannot tell an absent key from a key bound to nil -/
theorem get_snd (s : State K V) (k : K) : (LRU.get s k).2 = (lookup k s.store).join := by
  unfold LRU.get; cases lookup k s.store <;> rfl

theorem cap_evict (s : State K V) : (evict s).cap = s.cap := by
  rcases evict_cases s with e | ⟨kb, e⟩ <;> rw [e]

theorem cap_step (s : State K V) (op : Op K V) : (step s op).1.cap = s.cap := by
  cases op with
  | get k => exact cap_get s k
  | put k ov =>
    show (put s k ov).cap = s.cap
    unfold put
    cases lookup k s.store with
    | some _ => exact cap_get s k
    | none => exact cap_evict s

theorem evict_lookup (s : State K V) (k : K) (w : Option V)
    (h : lookup k (evict s).store = some w) : lookup k s.store = some w := by
  rcases evict_cases s with e | ⟨kb, e⟩ <;> rw [e] at h
  · exact h
  · rw [lookup_eraseKey] at h
    split at h
    · cases h
    · exact h

/-- no invariant is assumed here and in `evict_lookup`: the caching verifier may have capacity 0 -/
theorem put_lookup (s : State K V) (k k' : K) (ov w : Option V)
    (h : lookup k' (put s k ov).store = some w) : (k' = k ∧ w = ov) ∨ lookup k' s.store = some w := by
  unfold put at h
  cases hl : lookup k s.store with
  | some _ =>
    simp only [hl] at h
    rw [store_get] at h
    exact Or.inr h
  | none =>
    simp only [hl] at h
    rw [lookup_insert] at h
    split at h
    · rename_i e; exact Or.inl ⟨e, (Option.some.inj h).symm⟩
    · exact Or.inr (evict_lookup s k' _ h)

def absItem (st : List (K × Option V)) (k : K) : Option (K × Option V) :=
  match lookup k st with
  | some w => some (k, w)
  | none => none

/-- the bindings in recency order -/
def abs (s : State K V) : Spec.LRU.State K (Option V) := ⟨s.cap, s.list.filterMap (absItem s.store)⟩

omit [DecidableEq K] in
/-- a `Put` of nil is a `put` of the value `none` -/
def absOp : Op K V → Spec.LRU.Op K (Option V)
  | .get k => .get k
  | .put k ov => .put k ov

theorem absItem_some {st : List (K × Option V)} {a : K} {w : Option V} (h : lookup a st = some w) :
    absItem st a = some (a, w) := by simp [absItem, h]

theorem lookup_filterMap_absItem (st : List (K × Option V)) (k : K) (l : List K) :
    lookup k (l.filterMap (absItem st)) = if k ∈ l then lookup k st else none := by
  induction l with
  | nil => simp [lookup]
  | cons a t ih =>
    rw [List.filterMap_cons]
    by_cases e : a = k
    · subst e
      cases h : lookup a st with
      | none => simp [absItem, ih, h]
      | some w => simp [absItem_some h, lookup]
    · have e' : ¬ k = a := fun h => e h.symm
      cases h : lookup a st with
      | none => simp [absItem, h, ih, e']
      | some w => simp [absItem_some h, lookup, ih, e, e']

theorem eraseKey_filterMap_absItem (st : List (K × Option V)) (k : K) (l : List K) :
    eraseKey k (l.filterMap (absItem st)) = (l.filter (fun a => a != k)).filterMap (absItem st) := by
  unfold eraseKey
  rw [List.filter_filterMap, List.filterMap_filter]
  congr 1; funext a
  unfold absItem
  cases lookup a st <;> by_cases e : a = k <;> simp [e]

theorem filterMap_absItem_congr (st1 st2 : List (K × Option V)) (l : List K)
    (h : ∀ k ∈ l, lookup k st1 = lookup k st2) :
    l.filterMap (absItem st1) = l.filterMap (absItem st2) := by
  induction l with
  | nil => rfl
  | cons a t ih =>
    simp only [List.filterMap_cons]
    have : absItem st1 a = absItem st2 a := by unfold absItem; rw [h a (by simp)]
    rw [this, ih (fun k hk => h k (by simp [hk]))]

theorem keys_filterMap_absItem (st : List (K × Option V)) (l : List K)
    (h : ∀ k ∈ l, ∃ w, lookup k st = some w) : (l.filterMap (absItem st)).map Prod.fst = l := by
  induction l with
  | nil => rfl
  | cons a t ih =>
    obtain ⟨w, hw⟩ := h a (by simp)
    rw [List.filterMap_cons, absItem_some hw, List.map_cons, ih (fun k hk => h k (by simp [hk]))]

theorem abs_keys {s : State K V} (hs : Inv s) : (abs s).items.map Prod.fst = s.list :=
  keys_filterMap_absItem s.store s.list (fun _ hk => lookup_of_mem hs hk)

theorem abs_length {s : State K V} (hs : Inv s) : (abs s).items.length = s.list.length := by
  rw [← List.length_map Prod.fst, abs_keys hs]

theorem lookup_abs {s : State K V} (hs : Inv s) (k : K) : lookup k (abs s).items = lookup k s.store := by
  show lookup k (s.list.filterMap (absItem s.store)) = _
  rw [lookup_filterMap_absItem]
  split
  · rfl
  · rename_i hk; exact (lookup_of_not_mem hs hk).symm

theorem abs_concat {s : State K V} (hs : Inv s) {l : List K} {kb : K} (hsplit : s.list = l ++ [kb]) :
    ∃ wb, (abs s).items = l.filterMap (absItem s.store) ++ [(kb, wb)] := by
  obtain ⟨wb, hwb⟩ := lookup_of_mem hs (k := kb) (by simp [hsplit])
  exact ⟨wb, by simp [abs, hsplit, List.filterMap_append, absItem_some hwb]⟩

theorem Spec.get_snd {W : Type} (s : Spec.LRU.State K W) (k : K) : (Spec.LRU.get s k).2 = lookup k s.items := by
  unfold Spec.LRU.get; cases lookup k s.items <;> rfl

theorem refine_get {s : State K V} (hs : Inv s) (k : K) :
    abs (LRU.get s k).1 = (Spec.LRU.get (abs s) k).1 ∧
    (LRU.get s k).2 = (Spec.LRU.get (abs s) k).2.join := by
  refine ⟨?_, by rw [get_snd, Spec.get_snd, lookup_abs hs]⟩
  unfold LRU.get Spec.LRU.get
  rw [lookup_abs hs]
  cases h : lookup k s.store with
  | none => rfl
  | some w =>
    simp only [abs, List.filterMap_cons, absItem_some h]
    rw [eraseKey_filterMap_absItem, hs.nodup.erase_eq_filter]

theorem refine_evict {s : State K V} (hs : Inv s) :
    (abs (evict s)).items =
      if (abs s).items.length = s.cap then (abs s).items.dropLast else (abs s).items := by
  rw [abs_length hs]
  by_cases hfull : s.list.length = s.cap
  · obtain ⟨l, kb, hsplit, hkb, he⟩ := evict_full hs hfull
    obtain ⟨wb, h1⟩ := abs_concat hs hsplit
    rw [if_pos hfull, h1, List.dropLast_concat, he]
    refine filterMap_absItem_congr _ _ _ fun k hk => ?_
    rw [lookup_eraseKey, if_neg (fun e : k = kb => hkb (e ▸ hk))]
  · rw [if_neg hfull, evict_not_full hfull]

theorem Spec.put_hit {W : Type} {s : Spec.LRU.State K W} {k : K} {v0 : W} (v : W) (h : lookup k s.items = some v0) :
    Spec.LRU.put s k v = (Spec.LRU.get s k).1 := by
  simp [Spec.LRU.put, Spec.LRU.get, h]

theorem refine_put {s : State K V} (hs : Inv s) (k : K) (ov : Option V) :
    abs (put s k ov) = Spec.LRU.put (abs s) k ov := by
  unfold put
  cases h : lookup k s.store with
  | some w => rw [Spec.put_hit ov ((lookup_abs hs k).trans h)]; exact (refine_get hs k).1
  | none =>
    -- a miss: `abs` of the evicted state is the abstract list with its last binding dropped if full
    -- (`refine_evict`); `k` heads the new list with its new binding, and no other listed key is `k`
    have hk : k ∉ (evict s).list := fun hm =>
      absurd ((hs.keys k).mp (evict_list_subset hm)) (by simp [h])
    have hself : absItem ((k, ov) :: eraseKey k (evict s).store) k = some (k, ov) :=
      absItem_some (by rw [lookup_insert, if_pos rfl])
    simp only [Spec.LRU.put, lookup_abs hs, h]
    rw [show (abs s).cap = s.cap from rfl, ← refine_evict hs]
    simp only [abs, List.filterMap_cons, hself, cap_evict]
    congr 2
    refine filterMap_absItem_congr _ _ _ fun k' hk' => ?_
    rw [lookup_insert, if_neg (fun e : k' = k => hk (e ▸ hk'))]

theorem refine_step {s : State K V} (hs : Inv s) (op : Op K V) :
    abs (step s op).1 = (Spec.LRU.step (abs s) (absOp op)).1 ∧
    (step s op).2 = (Spec.LRU.step (abs s) (absOp op)).2.join := by
  cases op with
  | get k => exact refine_get hs k
  | put k ov => exact ⟨refine_put hs k ov, rfl⟩

theorem refine_run_from {s : State K V} (hs : Inv s) (ops : List (Op K V)) :
    abs (run s ops).1 = (Spec.LRU.run (abs s) (ops.map absOp)).1 ∧
    (run s ops).2 = (Spec.LRU.run (abs s) (ops.map absOp)).2.map Option.join := by
  induction ops generalizing s with
  | nil => exact ⟨rfl, rfl⟩
  | cons op ops ih =>
    obtain ⟨h1, h2⟩ := refine_step hs op
    have hs' := inv_step hs op
    obtain ⟨i1, i2⟩ := ih hs'
    simp only [List.map_cons, run, Spec.LRU.run]
    rw [← h1, ← h2]
    exact ⟨i1, by rw [i2]⟩

theorem refine_run {cap : Nat} (hc : 0 < cap) (ops : List (Op K V)) :
    abs (run (new cap : State K V) ops).1 = (Spec.LRU.run (Spec.LRU.new cap) (ops.map absOp)).1 ∧
    (run (new cap : State K V) ops).2 = (Spec.LRU.run (Spec.LRU.new cap) (ops.map absOp)).2.map Option.join :=
  refine_run_from (inv_new hc) ops

/-- C18, eviction: the key that goes is the back of the model's list and the least recently used binding of
`Spec.LRU` -/
theorem put_evicts_lru {s : State K V} (hs : Inv s) (k : K) (ov : Option V)
    (hk : k ∉ s.list) (hfull : s.list.length = s.cap) :
    ∃ kb wb, (abs s).items.getLast? = some (kb, wb) ∧ s.list.getLast? = some kb ∧
      (put s k ov).list = k :: s.list.dropLast ∧
      ∀ k', lookup k' (put s k ov).store =
        if k' = k then some ov else if k' = kb then none else lookup k' s.store := by
  obtain ⟨l, kb, hsplit, -, he⟩ := evict_full hs hfull
  obtain ⟨wb, h1⟩ := abs_concat hs hsplit
  rw [put_eq hs, if_neg hk, he]
  refine ⟨kb, wb, ?_, ?_, ?_, fun k' => ?_⟩
  · rw [h1, List.getLast?_concat]
  · rw [hsplit, List.getLast?_concat]
  · rw [hsplit, List.dropLast_concat]
  · rw [lookup_insert, lookup_eraseKey]

theorem put_no_evict {s : State K V} (hs : Inv s) (k : K) (ov : Option V)
    (hk : k ∉ s.list) (hfull : s.list.length ≠ s.cap) :
    (put s k ov).list = k :: s.list ∧
    ∀ k', lookup k' (put s k ov).store = if k' = k then some ov else lookup k' s.store := by
  rw [put_eq hs, if_neg hk, evict_not_full hfull]
  exact ⟨rfl, fun k' => lookup_insert k k' ov s.store⟩

/-- a `Put` of a present key does not replace the stored value: it only refreshes recency -/
theorem put_hit {s : State K V} (hs : Inv s) (k : K) (ov : Option V) (hk : k ∈ s.list) :
    (put s k ov).store = s.store ∧ (put s k ov).list = k :: s.list.erase k := by
  obtain ⟨w0, hw0⟩ := lookup_of_mem hs hk
  rw [put_eq hs, if_pos hk, LRU.get, hw0]
  exact ⟨rfl, rfl⟩

theorem Spec.items_get {s : Spec.LRU.State K V} {k : K} {p : K × V} (h : p ∈ (Spec.LRU.get s k).1.items) :
    p ∈ s.items := by
  unfold Spec.LRU.get at h
  cases hl : lookup k s.items with
  | none => simpa only [hl] using h
  | some v =>
    simp only [hl, List.mem_cons] at h
    rcases h with e | h
    · exact e ▸ lookup_mem hl
    · exact (List.mem_filter.mp h).1

theorem Spec.items_step (s : Spec.LRU.State K V) (op : Spec.LRU.Op K V) (p : K × V)
    (h : p ∈ (Spec.LRU.step s op).1.items) : p ∈ s.items ∨ op = .put p.1 p.2 := by
  cases op with
  | get k => exact Or.inl (Spec.items_get h)
  | put k v =>
    simp only [Spec.LRU.step] at h
    cases hl : lookup k s.items with
    | some v0 => rw [Spec.put_hit v hl] at h; exact Or.inl (Spec.items_get h)
    | none =>
      simp only [Spec.LRU.put, hl, List.mem_cons] at h
      rcases h with e | h
      · exact Or.inr (by rw [e])
      · split at h
        · exact Or.inl ((List.dropLast_sublist _).subset h)
        · exact Or.inl h

theorem Spec.items_run (s : Spec.LRU.State K V) (ops : List (Spec.LRU.Op K V)) (p : K × V)
    (h : p ∈ (Spec.LRU.run s ops).1.items) : p ∈ s.items ∨ .put p.1 p.2 ∈ ops := by
  induction ops generalizing s with
  | nil => exact Or.inl h
  | cons op ops ih =>
    simp only [Spec.LRU.run] at h
    rcases ih _ h with h1 | h1
    · rcases Spec.items_step s op p h1 with h2 | h2
      · exact Or.inl h2
      · exact Or.inr (by simp [h2])
    · exact Or.inr (List.mem_cons_of_mem _ h1)

theorem Spec.get_returns_put {cap : Nat} (ops : List (Spec.LRU.Op K V)) (k : K) (v : V)
    (h : (Spec.LRU.get (Spec.LRU.run (Spec.LRU.new cap) ops).1 k).2 = some v) : .put k v ∈ ops := by
  rw [Spec.get_snd] at h
  rcases Spec.items_run _ ops (k, v) (lookup_mem h) with h1 | h1
  · cases h1
  · exact h1

def keysOf (s : Spec.LRU.State K V) : List K := s.items.map Prod.fst

/-- `k` occurs at most once, so deleting it uncovers at most one key beyond the first `c + 1` -/
theorem take_filter_take (k : K) (U : List K) (hU : U.Nodup) (c : Nat) :
    ((U.take (c + 1)).filter (fun a => !decide (a = k))).take c
      = (U.filter (fun a => !decide (a = k))).take c := by
  induction U generalizing c with
  | nil => simp
  | cons x t ih =>
    rw [List.nodup_cons] at hU
    by_cases e : x = k
    · subst e
      simp only [List.take_succ_cons, List.filter_cons, decide_true, Bool.not_true, Bool.false_eq_true, if_false]
      rw [filter_ne_of_not_mem x (t.take c) (fun h => hU.1 ((List.take_sublist c t).subset h)),
          filter_ne_of_not_mem x t hU.1, List.take_take]
      simp
    · simp only [List.take_succ_cons, List.filter_cons, e, decide_false, Bool.not_false, if_true]
      cases c with
      | zero => simp
      | succ c' => simp only [List.take_succ_cons]; rw [ih hU.2 c']

theorem length_filter_ne_of_mem (k : K) (l : List K) (h : k ∈ l) :
    (l.filter (fun a => !decide (a = k))).length < l.length :=
  List.length_filter_lt_length_iff_exists.mpr ⟨k, h, by simp⟩

theorem touch_nodup (U : List K) (k : K) (h : U.Nodup) : (touch U k).Nodup := by
  unfold touch
  rw [List.nodup_cons]
  exact ⟨by simp [List.mem_filter], h.sublist List.filter_sublist⟩

theorem take_touch (U : List K) (hU : U.Nodup) (c : Nat) (k : K) :
    (touch (U.take c) k).take c = (touch U k).take c := by
  cases c with
  | zero => rfl
  | succ c => rw [touch, touch, List.take_succ_cons, List.take_succ_cons, take_filter_take k U hU c]

theorem keysOf_lookup_none {s : Spec.LRU.State K V} {k : K} (h : lookup k s.items = none) : k ∉ keysOf s :=
  (lookup_none_iff k s.items).mp h

theorem keysOf_lookup_some {s : Spec.LRU.State K V} {k : K} {v : V} (h : lookup k s.items = some v) :
    k ∈ keysOf s := by
  unfold keysOf; rw [← lookup_isSome_iff, h]; rfl

theorem Spec.keys_put {s : Spec.LRU.State K V} (hc : 0 < s.cap) (hlen : (keysOf s).length ≤ s.cap) (k : K) (v : V) :
    keysOf (Spec.LRU.put s k v) = (touch (keysOf s) k).take s.cap := by
  unfold Spec.LRU.put
  cases hl : lookup k s.items with
  | some v0 =>
    -- a hit: the list does not grow
    have h1 := length_filter_ne_of_mem k _ (keysOf_lookup_some hl)
    rw [List.take_of_length_le (by rw [touch, List.length_cons]; omega)]
    simp [keysOf, keys_eraseKey, touch]
  | none =>
    -- a miss: `k :: keys` cut to `c + 1 = cap`, i.e. `keys` cut to `c`, which drops the last key exactly when full
    obtain ⟨c, hcap⟩ : ∃ c, s.cap = c + 1 := ⟨s.cap - 1, by omega⟩
    rw [touch, filter_ne_of_not_mem k _ (keysOf_lookup_none hl), hcap, List.take_succ_cons]
    simp only [keysOf, List.length_map, List.map_cons] at hlen ⊢
    congr 1
    split
    · rename_i hfull; rw [List.map_dropLast, List.dropLast_eq_take, List.length_map, hfull]; rfl
    · rename_i hfull; rw [List.take_of_length_le (by rw [List.length_map]; omega)]

structure StackInv (s : Spec.LRU.State K V) (U : List K) : Prop where
  capPos : 0 < s.cap
  nodup : U.Nodup
  keys : keysOf s = U.take s.cap

theorem Spec.cap_step (s : Spec.LRU.State K V) (op : Spec.LRU.Op K V) : (Spec.LRU.step s op).1.cap = s.cap := by
  cases op with
  | get k => simp only [Spec.LRU.step, Spec.LRU.get]; split <;> rfl
  | put k v => simp only [Spec.LRU.step, Spec.LRU.put]; split <;> rfl

theorem stackInv_put {s : Spec.LRU.State K V} {U : List K} (h : StackInv s U) (k : K) (v : V) :
    StackInv (Spec.LRU.put s k v) (touch U k) := by
  have hcap : (Spec.LRU.put s k v).cap = s.cap := Spec.cap_step s (.put k v)
  refine ⟨hcap ▸ h.capPos, touch_nodup U k h.nodup, ?_⟩
  rw [hcap, Spec.keys_put h.capPos (h.keys ▸ List.length_take_le _ _), h.keys, take_touch U h.nodup]

theorem stackInv_step {s : Spec.LRU.State K V} {U : List K} (h : StackInv s U) (op : Spec.LRU.Op K V) :
    StackInv (Spec.LRU.step s op).1 (stackStep s.cap U op) := by
  cases op with
  | put k v => exact stackInv_put h k v
  | get k =>
    simp only [Spec.LRU.step, stackStep]
    -- a `get` that hits is a `put`, one that misses changes nothing
    cases hl : lookup k s.items with
    | some v => rw [if_pos (h.keys ▸ keysOf_lookup_some hl), ← Spec.put_hit v hl]; exact stackInv_put h k v
    | none => rw [if_neg (h.keys ▸ keysOf_lookup_none hl), Spec.LRU.get, hl]; exact h

theorem stackInv_run {s : Spec.LRU.State K V} {U : List K} (h : StackInv s U) (ops : List (Spec.LRU.Op K V)) :
    StackInv (Spec.LRU.run s ops).1 (stackRun s.cap U ops) ∧ (Spec.LRU.run s ops).1.cap = s.cap := by
  induction ops generalizing s U with
  | nil => exact ⟨h, rfl⟩
  | cons op ops ih =>
    have := ih (stackInv_step h op)
    rwa [Spec.cap_step] at this

theorem Spec.keys_eq_stack {cap : Nat} (hc : 0 < cap) (ops : List (Spec.LRU.Op K V)) :
    keysOf (Spec.LRU.run (Spec.LRU.new cap) ops).1 = (stackRun cap [] ops).take cap := by
  have h0 : StackInv (Spec.LRU.new cap : Spec.LRU.State K V) [] := ⟨hc, List.nodup_nil, by simp [keysOf, Spec.LRU.new]⟩
  obtain ⟨h, hcap⟩ := stackInv_run h0 ops
  rw [h.keys, hcap]; rfl

/-- by `Inv.keys` the recency list is also the key set of the store -/
theorem list_eq_stack {cap : Nat} (hc : 0 < cap) (ops : List (Op K V)) :
    (run (new cap : State K V) ops).1.list = (stackRun cap [] (ops.map absOp)).take cap := by
  rw [← abs_keys (inv_run hc ops), (refine_run hc ops).1]
  exact Spec.keys_eq_stack hc _

theorem binding_from_put {cap : Nat} (hc : 0 < cap) (ops : List (Op K V)) (k : K) (w : Option V)
    (h : lookup k (run (new cap : State K V) ops).1.store = some w) : Op.put k w ∈ ops := by
  have hm : (k, w) ∈ (abs (run (new cap : State K V) ops).1).items :=
    lookup_mem ((lookup_abs (inv_run hc ops) k).trans h)
  rw [(refine_run hc ops).1] at hm
  rcases Spec.items_run _ _ (k, w) hm with h1 | h1
  · cases h1
  · obtain ⟨op, hop, he⟩ := List.mem_map.mp h1
    cases op with
    | get k' => cases he
    | put k' w' => cases he; exact hop

/-- in the library's terms: the cache never returns an expanded key belonging to a different public key, given that
every key is `Put` with its own expansion -/
theorem get_returns_put {cap : Nat} (hc : 0 < cap) (ops : List (Op K V)) (k : K) (v : V)
    (h : (LRU.get (run (new cap : State K V) ops).1 k).2 = some v) : Op.put k (some v) ∈ ops := by
  rw [get_snd, Option.join_eq_some_iff] at h
  exact binding_from_put hc ops k (some v) h

/-- key 2 (least recently used) is evicted, key 1 keeps its first value, the recency order ends as 1, 3 -/
example : (run (new 2 : State Nat String)
    [.put 1 (some "a"), .put 2 (some "b"), .get 1, .put 3 (some "c"), .put 1 (some "z"), .get 2, .get 1]).2
    = [none, none, some "a", none, none, none, some "a"] := by decide

example : (abs (run (new 2 : State Nat String)
    [.put 1 (some "a"), .put 2 (some "b"), .get 1, .put 3 (some "c"), .put 1 (some "z")]).1).items
    = [(1, some "a"), (3, some "c")] := by decide

/-- the hypotheses of `put_evicts_lru` are satisfiable -/
example : ∃ s : State Nat String, Inv s ∧ 3 ∉ s.list ∧ s.list.length = s.cap :=
  ⟨(run (new 2) [.put 1 (some "a"), .put 2 (some "b")]).1, inv_run (by decide) _, by decide, by decide⟩

/-- `Put(k, nil); Put(k, v)` keeps one list element and the stored nil; the key occupies one slot and is evicted in LRU
order like any other -/
example : (run (new 2 : State Nat String) [.put 7 none, .put 7 (some "v")]).1.list = [7] ∧
    (run (new 2 : State Nat String) [.put 7 none, .put 7 (some "v")]).1.store = [(7, none)] := by decide

example : (run (new 2 : State Nat String)
    [.put 7 none, .put 7 (some "v"), .get 7, .put 8 (some "w"), .get 7, .get 8, .put 9 (some "x"), .get 7, .get 8]).2
    = [none, none, none, none, none, some "w", none, none, some "w"] := by decide

example : (run (new 2 : State Nat String)
    [.put 1 (some "a"), .put 2 (some "b"), .get 1, .put 3 (some "c"), .get 2, .put 1 (some "z")]).1.list = [1, 3] ∧
    stackRun 2 [] (([.put 1 (some "a"), .put 2 (some "b"), .get 1, .put 3 (some "c"), .get 2, .put 1 (some "z")]
      : List (Op Nat String)).map absOp) = [1, 3, 2] := by
  decide

end Voi.Props.LRUInv

#print axioms Voi.Props.LRUInv.inv_run
#print axioms Voi.Props.LRUInv.inv_put_nil
#print axioms Voi.Props.LRUInv.refine_step
#print axioms Voi.Props.LRUInv.refine_run
#print axioms Voi.Props.LRUInv.put_evicts_lru
#print axioms Voi.Props.LRUInv.put_no_evict
#print axioms Voi.Props.LRUInv.put_hit
#print axioms Voi.Props.LRUInv.Spec.items_run
#print axioms Voi.Props.LRUInv.Spec.get_returns_put
#print axioms Voi.Props.LRUInv.binding_from_put
#print axioms Voi.Props.LRUInv.get_returns_put
#print axioms Voi.Props.LRUInv.Spec.keys_eq_stack
#print axioms Voi.Props.LRUInv.list_eq_stack

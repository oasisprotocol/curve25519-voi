/-
Property C09 (batch-verifier part).  `Inv` is the history invariant of `Model.Batch`: every stored entry's cached
admission data and serial verdict are what `admit` / `serialVerdict` compute from the entry's own inputs and options,
and the summary flags are the disjunctions over the entries (`anyNotExpanded` or-ed with the ghost flag
"ForceNoPublicKeyExpansion was called since the last Reset").  Under it `Verify` returns (conjunction of the bits,
bits) with bit i the verdict of entry i, (false, []) for the empty batch, and `VerifyBatchOnly` says that the batch
is non-empty and every entry is admissible, cofactored and valid.  The serial verdict is `Spec.Ed25519.verify` under
the mode that `Spec.Ed25519.modeOf` computes (`serialVerdict_plain`); adding through an expanded key gives the same
verdict as adding the plain key.
-/
import Voi.Model.Batch
namespace Voi.Props.BatchInv
open Voi Voi.Spec Voi.Spec.Ed25519 Voi.Model.Batch

/-- the verdict of an entry recomputed from its inputs -/
def verdict (e : Entry) : Bool := serialVerdict e.key e.msg e.sig e.opts

/-- ghost state: has `ForceNoPublicKeyExpansion` been called since the last `Reset`? -/
def forcedStep (f : Bool) : Op → Bool
  | .forceNoPublicKeyExpansion => true
  | .reset => false
  | _ => f

def forcedRun (f : Bool) : List Op → Bool
  | [] => f
  | op :: ops => forcedRun (forcedStep f op) ops

structure Inv (s : State) (forced : Bool) : Prop where
  entries : ∀ e ∈ s.entries, e.adm = admit e.key e.msg e.sig e.opts ∧ e.serial = verdict e
  anyInvalid : s.anyInvalid = s.entries.any (fun e => !e.adm.canBeValid)
  anyCofactorless : s.anyCofactorless = s.entries.any (fun e => e.adm.wantCofactorless)
  anyNotExpanded : s.anyNotExpanded = (forced || s.entries.any (fun e => !e.adm.expanded))

theorem inv_init : Inv init false :=
  ⟨by intro e h; simp [init] at h, rfl, rfl, rfl⟩

/-- the key check of `doInit`, for each form of the key argument -/
def keyOk (v : VOpts) : KeyIn → Bool
  | .expanded (some x) => checkExpandedPublicKey v x
  | .expanded none => unpackPublicKey v ByteArray.empty
  | .plain pk => unpackPublicKey v pk

/-- the three flags that `doInit` leaves in the entry, each as a formula -/
theorem admit_eq (key : KeyIn) (msg sig : Bytes) (o : Opts) :
    admit key msg sig o =
      (optsVerify o).elim ⟨false, false, false⟩ fun fb =>
        ⟨keyOk o.vopts key && unpackSignature o.vopts sig && (checkHash fb msg.size o.hash).isSome,
         o.vopts.cofactorless, keyOk o.vopts key && match key with | .expanded (some _) => true | _ => false⟩ := by
  unfold admit
  cases optsVerify o with
  | none => rfl
  | some fb =>
    show (if !keyOk o.vopts key then _ else _) = Admission.mk _ _ _
    cases keyOk o.vopts key <;> cases unpackSignature o.vopts sig <;> cases checkHash fb msg.size o.hash <;> rfl

theorem admit_plain_not_expanded (pk msg sig : Bytes) (o : Opts) :
    (admit (.plain pk) msg sig o).expanded = false := by
  rw [admit_eq]
  cases optsVerify o with
  | none => rfl
  | some fb => exact Bool.and_false _

/-- the new `anyNotExpanded` is a parameter because the else-branch of `addWithOptions` sets it to `true` outright -/
theorem inv_append {s : State} {f : Bool} (h : Inv s f) (key : KeyIn) (msg sig : Bytes) (o : Opts) (ne : Bool)
    (hne : ne = (s.anyNotExpanded || !(mkEntry key msg sig o).adm.expanded)) :
    Inv ⟨s.entries ++ [mkEntry key msg sig o], s.anyInvalid || !(mkEntry key msg sig o).adm.canBeValid,
         s.anyCofactorless || (mkEntry key msg sig o).adm.wantCofactorless, ne⟩ f := by
  refine ⟨fun e he => ?_, ?_, ?_, ?_⟩
  · rcases List.mem_append.mp he with he | he
    · exact h.entries e he
    · rw [List.mem_singleton.mp he]; exact ⟨rfl, rfl⟩
  · simp [h.anyInvalid]
  · simp [h.anyCofactorless]
  · simp [hne, h.anyNotExpanded, Bool.or_assoc]

theorem inv_addExpanded {s : State} {f : Bool} (h : Inv s f) (x : Option XKey) (msg sig : Bytes) (o : Opts) :
    Inv (addExpandedWithOptions s x msg sig o) f := inv_append h _ _ _ _ _ rfl

theorem inv_add {s : State} {f : Bool} (h : Inv s f) (pk msg sig : Bytes) (o : Opts) :
    Inv (addWithOptions s pk msg sig o) f := by
  unfold addWithOptions
  split
  · exact inv_addExpanded h _ _ _ _
  · exact inv_append h _ _ _ _ _ (by simp [mkEntry, admit_plain_not_expanded])

theorem inv_step {s : State} {f : Bool} (h : Inv s f) (op : Op) : Inv (step s op).1 (forcedStep f op) := by
  cases op with
  | add pk msg sig => exact inv_add h _ _ _ _
  | addWithOptions pk msg sig o => exact inv_add h _ _ _ _
  | addExpanded x msg sig => exact inv_addExpanded h _ _ _ _
  | addExpandedWithOptions x msg sig o => exact inv_addExpanded h _ _ _ _
  | forceNoPublicKeyExpansion =>
    exact ⟨h.entries, h.anyInvalid, h.anyCofactorless, by simp [step, forcedStep]⟩
  | reset => exact inv_init
  | verify ent => exact h
  | verifyBatchOnly ent => exact h

theorem inv_run_from {s : State} {f : Bool} (h : Inv s f) (ops : List Op) :
    Inv (run s ops).1 (forcedRun f ops) := by
  induction ops generalizing s f with
  | nil => exact h
  | cons op ops ih => simp only [run, forcedRun]; exact ih (inv_step h op)

theorem inv_run (ops : List Op) : Inv (run init ops).1 (forcedRun false ops) :=
  inv_run_from inv_init ops

theorem reset_init (s : State) : (step s .reset).1 = init := rfl

/-- the precomputed path of `VerifyBatchOnly`, which dereferences `entry.expandedA`, is only taken when every entry
has an expanded key -/
theorem precompute_safe {s : State} {f : Bool} (h : Inv s f) (hp : precomputeOk s = true) :
    ∀ e ∈ s.entries, e.adm.expanded = true := by
  intro e he
  have h1 : s.anyNotExpanded = false := by simpa using (Bool.and_eq_true_iff.mp hp).1
  rw [h.anyNotExpanded, Bool.or_eq_false_iff] at h1
  simpa using List.any_eq_false.mp h1.2 e he

/-! Each summary flag is an `any` over the entries, so what a query computes is one `all` over the entries, and two
such conjunctions are compared entry by entry. -/

theorem all_and {α : Type} (l : List α) (p q : α → Bool) :
    (l.all p && l.all q) = l.all (fun a => p a && q a) := by
  induction l with
  | nil => rfl
  | cons a t ih => simp only [List.all_cons, ← ih]; ac_rfl

theorem all_congr_mem {α : Type} {l : List α} {p q : α → Bool} (h : ∀ a ∈ l, p a = q a) : l.all p = l.all q := by
  rw [List.all_eq, List.all_eq]
  exact decide_eq_decide.mpr (forall₂_congr fun a ha => by rw [h a ha])

theorem not_canBeValid_verdict {s : State} {f : Bool} (h : Inv s f) {e : Entry} (he : e ∈ s.entries)
    (hc : e.adm.canBeValid = false) : verdict e = false := by
  unfold verdict serialVerdict
  rw [← (h.entries e he).1, hc]; rfl

/-- the bit that `Verify` reports for an entry -/
theorem serial_bit {s : State} {f : Bool} (h : Inv s f) :
    ∀ e ∈ s.entries, (if e.adm.canBeValid then e.serial else false) = verdict e := by
  intro e he
  cases hc : e.adm.canBeValid
  · exact (not_canBeValid_verdict h he hc).symm
  · exact (h.entries e he).2

/-- the loop of the serial path that computes `allValid` -/
theorem foldl_allValid (l : List Entry) (acc : Bool) :
    l.foldl (fun acc e => if e.adm.canBeValid then acc && e.serial else acc) acc =
      (acc && l.all (fun e => if e.adm.canBeValid then e.serial else true)) := by
  induction l generalizing acc with
  | nil => simp
  | cons e t ih =>
    rw [List.foldl_cons, ih, List.all_cons]
    cases e.adm.canBeValid <;> simp [Bool.and_assoc]

theorem verifySerial_eq {s : State} {f : Bool} (h : Inv s f) :
    verifySerial s = .bools (s.entries.all verdict) (s.entries.map verdict) := by
  simp only [verifySerial, foldl_allValid, h.anyInvalid, List.not_any_eq_all_not, all_and,
    List.map_congr_left (serial_bit h)]
  congr 1
  refine all_congr_mem fun e he => ?_
  rw [← serial_bit h e he]
  cases e.adm.canBeValid <;> rfl

theorem verifyBatchOnly_eq {s : State} {f : Bool} (h : Inv s f) :
    verifyBatchOnly s .ok =
      .bool (!s.entries.isEmpty &&
             s.entries.all (fun e => e.adm.canBeValid && !e.adm.wantCofactorless && verdict e)) := by
  have hall : (!s.anyInvalid && !s.anyCofactorless && batchEquation s) =
      s.entries.all (fun e => e.adm.canBeValid && !e.adm.wantCofactorless && verdict e) := by
    rw [h.anyInvalid, h.anyCofactorless, batchEquation, List.not_any_eq_all_not, List.not_any_eq_all_not,
      all_and, all_and]
    exact all_congr_mem fun e he => by rw [(h.entries e he).2, Bool.not_not]
  rw [← hall]
  unfold verifyBatchOnly
  cases s.entries.isEmpty <;> cases s.anyInvalid <;> cases s.anyCofactorless <;> rfl

/-- with the idealised `batchEquation` the fast path and the serial path agree -/
theorem verify_eq {s : State} {f : Bool} (h : Inv s f) :
    Model.Batch.verify s .ok = .bools (!s.entries.isEmpty && s.entries.all verdict) (s.entries.map verdict) := by
  unfold Model.Batch.verify
  cases he : s.entries.isEmpty with
  | true => rw [List.isEmpty_iff.mp he]; rfl
  | false =>
    rw [verifyBatchOnly_eq h, he, Bool.not_false, Bool.true_and, Bool.true_and, ← verifySerial_eq h]
    -- every path ends in `verifySerial` but the fast one, taken when all entries are admissible and valid
    cases hb : s.entries.all (fun e => e.adm.canBeValid && !e.adm.wantCofactorless && verdict e) with
    | false => simp
    | true =>
      have hall : ∀ e ∈ s.entries, e.adm.canBeValid = true ∧ verdict e = true := fun e hm => by
        have := List.all_eq_true.mp hb e hm
        simp only [Bool.and_eq_true] at this
        exact ⟨this.1.1, this.2⟩
      rw [verifySerial_eq h, List.all_eq_true.mpr fun e hm => (hall e hm).2,
        List.map_congr_left (fun e hm => by rw [(hall e hm).1, (hall e hm).2] : ∀ e ∈ s.entries, _ = verdict e)]
      simp

theorem verify_conj {s : State} {f : Bool} (h : Inv s f) :
    ∃ bits, Model.Batch.verify s .ok = .bools (!bits.isEmpty && bits.all id) bits ∧ bits.length = s.entries.length := by
  refine ⟨s.entries.map verdict, ?_, by simp⟩
  rw [verify_eq h]
  simp [List.all_map]

theorem verifyBatchOnly_panic_iff (s : State) :
    verifyBatchOnly s .fail = .panicDoc ↔
      (s.entries.isEmpty = false ∧ s.anyInvalid = false ∧ s.anyCofactorless = false) := by
  unfold verifyBatchOnly
  cases s.entries.isEmpty <;> cases s.anyInvalid <;> cases s.anyCofactorless <;> simp

/-- `(*Options).verify()` followed by `checkHash` is the Spec's option/mode validation -/
theorem modeOf_eq (o : Opts) (msgLen : Nat) :
    modeOf o.verify o.ctx (decide (o.hash = .sha512)) (decide (o.hash = .other)) msgLen =
      (optsVerify o).bind (fun f => checkHash f msgLen o.hash) := by
  unfold modeOf optsVerify checkHash
  -- both begin with the same test of the flags (through two `match` auxiliaries, so `generalize` finds only one)
  refine (?_ : ∀ bad : Bool, (if bad = true then none else _) = Option.bind (if bad = true then none else _) _) _
  intro bad
  cases bad
  · by_cases h255 : o.ctx.size > 255
    · have h0 : o.ctx.size > 0 := by omega
      simp [h255, h0]
    · cases o.hash <;> by_cases h0 : o.ctx.size > 0 <;> simp [h255, h0]
  · rfl

theorem verify_true_admissible (v : VOpts) (f : Dom) (ctx pk msg sig : Bytes)
    (h : Spec.Ed25519.verify v f ctx pk msg sig = true) :
    unpackPublicKey v pk = true ∧ unpackSignature v sig = true := by
  unfold Spec.Ed25519.verify at h
  unfold unpackPublicKey unpackSignature
  cases hA : Pt.decode pk with
  | none => simp [hA] at h
  | some A =>
    -- every guard `if c then false else …` of the three functions becomes a conjunct `¬ c`
    simp only [hA, Bool.if_false_left, Bool.and_eq_true, Bool.not_eq_true', decide_eq_false_iff_not] at h ⊢
    obtain ⟨hlen, hS, hsmallA, hcanA, hcanR, heq⟩ := h
    refine ⟨⟨hsmallA, hcanA, trivial⟩, hlen, hS, ?_, hcanR, trivial⟩
    -- the check of R sits inside the closing equation, in a form that depends on the options
    revert heq
    cases v.cofactorless <;> cases v.smallR <;> cases Pt.decode (bslice sig 0 32) <;> simp +contextual

theorem serialVerdict_eq (key : KeyIn) (msg sig : Bytes) (o : Opts) :
    serialVerdict key msg sig o =
      ((optsVerify o).bind fun fb => checkHash fb msg.size o.hash).any fun f =>
        keyOk o.vopts key && unpackSignature o.vopts sig && Spec.Ed25519.verify o.vopts f o.ctx key.bytes msg sig := by
  unfold serialVerdict
  cases h1 : optsVerify o with
  | none => rw [admit_eq, h1]; rfl
  | some fb =>
    rw [admit_eq, h1, Option.elim_some, Option.bind_some]
    dsimp only
    cases checkHash fb msg.size o.hash with
    | none => simp
    | some f => cases keyOk o.vopts key <;> cases unpackSignature o.vopts sig <;> rfl

/-- C09: the bit that `Verify` reports for an entry added with a plain key is the Spec's verdict, false when the options
are rejected -/
theorem serialVerdict_plain (pk msg sig : Bytes) (o : Opts) :
    serialVerdict (.plain pk) msg sig o =
      match modeOf o.verify o.ctx (decide (o.hash = .sha512)) (decide (o.hash = .other)) msg.size with
      | none => false
      | some f => Spec.Ed25519.verify o.vopts f o.ctx pk msg sig := by
  rw [modeOf_eq, serialVerdict_eq]
  cases (optsVerify o).bind (fun fb => checkHash fb msg.size o.hash) with
  | none => rfl
  | some f =>
    simp only [keyOk, KeyIn.bytes, Option.any_some]
    cases hv : Spec.Ed25519.verify o.vopts f o.ctx pk msg sig with
    | false => exact Bool.and_false _
    | true => rw [(verify_true_admissible _ _ _ _ _ _ hv).1, (verify_true_admissible _ _ _ _ _ _ hv).2]; rfl

theorem decode_wrong_size {b : Bytes} (h : b.size ≠ 32) : Pt.decode b = none := if_pos h

/-- what `NewExpandedPublicKey` caches is what `unpackPublicKey` recomputes -/
theorem expand_some {pk : Bytes} {x : XKey} (h : expand pk = some x) (v : VOpts) :
    x.compressed = pk ∧ checkExpandedPublicKey v x = unpackPublicKey v pk := by
  unfold expand at h
  cases hA : Pt.decode pk with
  | none => simp [hA] at h
  | some A =>
    simp only [hA, Option.some.injEq] at h
    subst h
    simp [checkExpandedPublicKey, unpackPublicKey, hA]

/-- `ByteArray.empty` is the nil key handed on in place of a key that does not expand -/
theorem expand_none {pk : Bytes} (h : expand pk = none) (v : VOpts) :
    unpackPublicKey v pk = false ∧ unpackPublicKey v ByteArray.empty = false := by
  unfold expand at h
  cases hA : Pt.decode pk with
  | none => simp [unpackPublicKey, hA, decode_wrong_size (b := ByteArray.empty) (by decide)]
  | some A => simp [hA] at h

theorem keyOk_expand (v : VOpts) (pk : Bytes) : keyOk v (.expanded (expand pk)) = keyOk v (.plain pk) := by
  cases hx : expand pk with
  | none => exact (expand_none hx v).2.trans (expand_none hx v).1.symm
  | some x => exact (expand_some hx v).2

/-- C09: adding through `NewExpandedPublicKey(pk)` (nil when the expansion fails) gives the same verdict as adding the
plain key -/
theorem serialVerdict_expand (pk msg sig : Bytes) (o : Opts) :
    serialVerdict (.expanded (expand pk)) msg sig o = serialVerdict (.plain pk) msg sig o := by
  rw [serialVerdict_eq, serialVerdict_eq, keyOk_expand]
  cases (optsVerify o).bind (fun fb => checkHash fb msg.size o.hash) with
  | none => simp only [Option.any_none]
  | some f =>
    -- the key bytes that enter the hash differ only for a key that is rejected anyway
    cases hx : expand pk with
    | none => simp [keyOk, (expand_none hx o.vopts).1]
    | some x => simp [KeyIn.bytes, (expand_some hx o.vopts).1]

/-- the third flag, `expanded`, may differ -/
theorem admit_expand (pk msg sig : Bytes) (o : Opts) :
    (admit (.expanded (expand pk)) msg sig o).canBeValid = (admit (.plain pk) msg sig o).canBeValid ∧
    (admit (.expanded (expand pk)) msg sig o).wantCofactorless = (admit (.plain pk) msg sig o).wantCofactorless := by
  rw [admit_eq, admit_eq, keyOk_expand]
  cases optsVerify o <;> exact ⟨rfl, rfl⟩

/-- C09 after any history; for entries added with a plain key or with `NewExpandedPublicKey(pk)`, `verdict` is
`Spec.Ed25519.verify` (`serialVerdict_plain`, `serialVerdict_expand`) -/
theorem verify_after_history (ops : List Op) :
    let s := (run init ops).1
    Model.Batch.verify s .ok = .bools (!s.entries.isEmpty && s.entries.all verdict) (s.entries.map verdict) :=
  verify_eq (inv_run ops)

theorem verifyBatchOnly_after_history (ops : List Op) :
    let s := (run init ops).1
    verifyBatchOnly s .ok =
      .bool (!s.entries.isEmpty &&
             s.entries.all (fun e => e.adm.canBeValid && !e.adm.wantCofactorless && verdict e)) :=
  verifyBatchOnly_eq (inv_run ops)

/-- an entry with an empty key is inadmissible -/
example :
    (run init [.verify .ok, .verifyBatchOnly .fail,
               .add ByteArray.empty ByteArray.empty ByteArray.empty,
               .verify .fail, .verifyBatchOnly .ok, .reset, .verify .ok]).2
      = [.bools false [], .bool false, .unit, .bools false [false], .bool false, .unit, .bools false []] := by
  decide

/-- the ghost flag is needed: after `ForceNoPublicKeyExpansion` the flag is set without any entry -/
example : (run init [.forceNoPublicKeyExpansion]).1.anyNotExpanded = true ∧
          (run init [.forceNoPublicKeyExpansion]).1.entries = [] := by decide

/-- the hypotheses of `precompute_safe` are satisfiable -/
example : Inv init false ∧ precomputeOk init = true := ⟨inv_init, by decide⟩

end Voi.Props.BatchInv

#print axioms Voi.Props.BatchInv.inv_run
#print axioms Voi.Props.BatchInv.reset_init
#print axioms Voi.Props.BatchInv.precompute_safe
#print axioms Voi.Props.BatchInv.verify_eq
#print axioms Voi.Props.BatchInv.verify_conj
#print axioms Voi.Props.BatchInv.verifyBatchOnly_eq
#print axioms Voi.Props.BatchInv.verifyBatchOnly_panic_iff
#print axioms Voi.Props.BatchInv.modeOf_eq
#print axioms Voi.Props.BatchInv.verify_true_admissible
#print axioms Voi.Props.BatchInv.serialVerdict_plain
#print axioms Voi.Props.BatchInv.serialVerdict_expand
#print axioms Voi.Props.BatchInv.admit_expand
#print axioms Voi.Props.BatchInv.verify_after_history
#print axioms Voi.Props.BatchInv.verifyBatchOnly_after_history

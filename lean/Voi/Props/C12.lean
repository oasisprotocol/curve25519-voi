/-
Property C12 — sr25519, the part that is mathematics.  On the Spec functions of `Voi.Spec.Sr25519` (which stream Q1
compares with the Go code on every run): each of the four decoders accepts exactly the canonical strings and
`marshal ∘ unmarshal = id` on them; `scalarDivideByCofactor` is the byte loop of the Go code and exact on clamped input;
for the batch verifier: the state invariant `BInv` holds of the new verifier and is kept by `Add` and `Reset`; in every
state with `BInv`, `Verify` returns `BatchVerifier.expected`, the serial verdicts of the stored entries and their
conjunction (`batch_eq_single`, given `hfast`); the serial verdict of an entry is what `Verify` returns on the inputs it
was made from (`entry_serial_eq_single`).
Over an abstract prime-order group and transcript (`SrIface`, `SrLaws`): `Sign` then `Verify` succeeds for every secret
scalar and witness, and for a fixed R, key and transcript at most one `s < L` verifies.

Not theorems: rejection after a change of context, message or R (hash-dependent); completeness of the concrete Spec
beyond its transcript part (`sr_complete_concrete_partial` assumes `RistrettoSignFacts`).  `Toy.toySr` (ℤ/13) satisfies
`SrLaws`, but no instance meets the hypotheses of `sr_sig_bytes_unique` jointly: it assumes `I.L = Spec.L` in addition,
and `concreteSr` has no `SrLaws`.
-/
import Voi.Props.C01
import Voi.Props.BytesMore
import Voi.Spec.Sr25519

namespace Voi.Props.C12
open Voi Voi.Spec Voi.Spec.Sr25519 Voi.Props.Bytes Voi.Props.C01

-- `rfl` patterns, `congr` and `exact` would otherwise unfold the byte functions; they are used through their lemmas only
attribute [local irreducible] leNat bslice natLE

theorem bind_eq_ok {ε α β : Type} {x : Except ε α} {f : α → Except ε β} {b : β} :
    x >>= f = .ok b ↔ ∃ a, x = .ok a ∧ f a = .ok b := by
  cases x
  · simp only [bind, Except.bind, reduceCtorEq, false_and, exists_false]
  · simp only [bind, Except.bind, Except.ok.injEq, exists_eq_left']

/-! Each decoder is a chain of guards `if bad then none else …` ending in a constructor, so one `simp only` with
`Option.ite_none_left_eq_some` says when it returns a given value (`*_decode_eq_some`); acceptance (`*_decode_iff`) and
the round trip (`*_roundtrip`) are read off that. -/

section Decoders

theorem marker_byte (b : Bytes) (hb : b.size = 64) : (b.get! 63).toNat = leNat (bslice b 32 32) / 256 ^ 31 := by
  rw [← get!_last (n := 31) (bslice_size_of_le (by omega)), get!_bslice b 32 32 31 (by omega) (by omega)]

theorem sig_decode_eq_some {b : Bytes} {sig : Signature} :
    decodeSignature b = some sig ↔
      b.size = 64 ∧ 128 ≤ (b.get! 63).toNat ∧ leNat (bslice b 32 32) % 2 ^ 255 < L ∧
        sig.r = bslice b 0 32 ∧ sig.s = leNat (bslice b 32 32) % 2 ^ 255 := by
  rcases sig with ⟨r, s⟩
  simp only [decodeSignature, Option.ite_none_left_eq_some, Option.some.injEq, Signature.mk.injEq, not_not, not_lt,
    ge_iff_le, not_le, eq_comm (a := r), eq_comm (a := s)]

/-- `Signature.UnmarshalBinary`; the marker bit is bit 7 of byte 63 -/
theorem sig_decode_iff (b : Bytes) :
    (decodeSignature b).isSome = true ↔
      b.size = 64 ∧ 128 ≤ (b.get! 63).toNat ∧ leNat (bslice b 32 32) % 2 ^ 255 < L := by
  rw [Option.isSome_iff_exists]
  exact ⟨fun ⟨_, h⟩ => let ⟨h1, h2, h3, _⟩ := sig_decode_eq_some.1 h; ⟨h1, h2, h3⟩,
    fun ⟨h1, h2, h3⟩ => ⟨⟨_, _⟩, sig_decode_eq_some.2 ⟨h1, h2, h3, rfl, rfl⟩⟩⟩

/-- C12: `MarshalBinary ∘ UnmarshalBinary = id` on accepted signature strings -/
theorem sig_roundtrip {b : Bytes} {sig : Signature} (h : decodeSignature b = some sig) : sig.marshal = b := by
  obtain ⟨h1, h2, h3, h4, h5⟩ := sig_decode_eq_some.1 h
  -- the marker bit is set, so clearing it and setting it again gives the field back
  have hm : sig.s % L + 2 ^ 255 = leNat (bslice b 32 32) := by
    have hlt := leNat_lt_of_size (bslice_size_of_le (b := b) (off := 32) (len := 32) (by omega))
    rw [marker_byte b h1] at h2
    rw [h5, Nat.mod_eq_of_lt h3]
    omega
  unfold Signature.marshal
  rw [hm, h4, natLE_leNat_of_size (bslice_size_of_le (by omega))]
  exact split_at b 32 32 h1

theorem sig_decode_ignores_R (b b' : Bytes) (hs : b.size = b'.size) (h : bslice b 32 32 = bslice b' 32 32) :
    (decodeSignature b).isSome = (decodeSignature b').isSome := by
  rw [Bool.eq_iff_iff, sig_decode_iff, sig_decode_iff, hs, h]
  refine and_congr_right fun h1 => ?_
  rw [marker_byte b (hs.trans h1), marker_byte b' h1, h]

theorem sk_decode_eq_some {b : Bytes} {sk : SecretKey} :
    decodeSecretKey b = some sk ↔
      b.size = 64 ∧ leNat (bslice b 0 32) < L ∧ sk.key = leNat (bslice b 0 32) ∧ sk.nonce = bslice b 32 32 := by
  rcases sk with ⟨k, n⟩
  simp only [decodeSecretKey, Option.ite_none_left_eq_some, Option.some.injEq, SecretKey.mk.injEq, not_not, ge_iff_le,
    not_le, eq_comm (a := k), eq_comm (a := n)]

/-- `SecretKey.UnmarshalBinary` -/
theorem sk_decode_iff (b : Bytes) :
    (decodeSecretKey b).isSome = true ↔ b.size = 64 ∧ leNat (bslice b 0 32) < L := by
  rw [Option.isSome_iff_exists]
  exact ⟨fun ⟨_, h⟩ => let ⟨h1, h2, _⟩ := sk_decode_eq_some.1 h; ⟨h1, h2⟩,
    fun ⟨h1, h2⟩ => ⟨⟨_, _⟩, sk_decode_eq_some.2 ⟨h1, h2, rfl, rfl⟩⟩⟩

theorem sk_roundtrip {b : Bytes} {sk : SecretKey} (h : decodeSecretKey b = some sk) : sk.marshal = b := by
  obtain ⟨h1, h2, h3, h4⟩ := sk_decode_eq_some.1 h
  unfold SecretKey.marshal
  rw [h3, h4, Nat.mod_eq_of_lt h2, natLE_leNat_of_size (bslice_size_of_le (by omega))]
  exact split_at b 32 32 h1

theorem pk_decode_eq_some {b : Bytes} {pk : PublicKey} :
    decodePublicKey b = some pk ↔ b.size = 32 ∧ pk.compressed = b ∧ Ristretto.decode b = some pk.point := by
  unfold decodePublicKey
  rcases Ristretto.decode b with _ | A
  · simp only [ite_self, reduceCtorEq, and_false]
  · rcases pk with ⟨c, P⟩
    simp only [Option.ite_none_left_eq_some, Option.some.injEq, PublicKey.mk.injEq, not_not, eq_comm (a := b),
      eq_comm (a := A)]

/-- `PublicKey.UnmarshalBinary` -/
theorem pk_decode_iff (b : Bytes) :
    (decodePublicKey b).isSome = true ↔ b.size = 32 ∧ (Ristretto.decode b).isSome = true := by
  simp only [Option.isSome_iff_exists]
  exact ⟨fun ⟨_, h⟩ => let ⟨h1, _, h3⟩ := pk_decode_eq_some.1 h; ⟨h1, _, h3⟩,
    fun ⟨h1, A, h3⟩ => ⟨⟨b, A⟩, pk_decode_eq_some.2 ⟨h1, rfl, h3⟩⟩⟩

theorem pk_roundtrip {b : Bytes} {pk : PublicKey} (h : decodePublicKey b = some pk) : pk.marshal = b :=
  (pk_decode_eq_some.1 h).2.1

theorem publicKey_compressed (sk : SecretKey) :
    sk.publicKey.compressed = Ristretto.encode (Ristretto.smul sk.key Ristretto.B) := rfl

theorem kp_decode_eq_some {b : Bytes} {kp : KeyPair} :
    decodeKeyPair b = some kp ↔
      b.size = 96 ∧ decodeSecretKey (bslice b 0 64) = some kp.sk ∧ decodePublicKey (bslice b 64 32) = some kp.pk ∧
        kp.sk.publicKey.compressed = kp.pk.compressed := by
  unfold decodeKeyPair
  rcases decodeSecretKey (bslice b 0 64) with _ | sk
  · simp only [ite_self, reduceCtorEq, false_and, and_false]
  rcases decodePublicKey (bslice b 64 32) with _ | pk
  · simp only [ite_self, reduceCtorEq, false_and, and_false]
  rcases kp with ⟨sk', pk'⟩
  simp only [Option.ite_none_left_eq_some, Option.ite_none_right_eq_some, Option.some.injEq, KeyPair.mk.injEq, not_not,
    Bytes.beq_iff]
  constructor
  · rintro ⟨h1, h2, rfl, rfl⟩; exact ⟨h1, rfl, rfl, h2⟩
  · rintro ⟨h1, rfl, rfl, h2⟩; exact ⟨h1, h2, rfl, rfl⟩

/-- `KeyPair.UnmarshalBinary` -/
theorem kp_decode_iff (b : Bytes) :
    (decodeKeyPair b).isSome = true ↔
      b.size = 96 ∧ leNat (bslice b 0 32) < L ∧ (Ristretto.decode (bslice b 64 32)).isSome = true ∧
        Ristretto.encode (Ristretto.smul (leNat (bslice b 0 32)) Ristretto.B) = bslice b 64 32 := by
  have e : bslice (bslice b 0 64) 0 32 = bslice b 0 32 := bslice_bslice b 0 64 0 32 (by omega)
  rw [Option.isSome_iff_exists]
  constructor
  · rintro ⟨kp, h⟩
    obtain ⟨h1, hsk, hpk, he⟩ := kp_decode_eq_some.1 h
    obtain ⟨-, s2, s3, -⟩ := sk_decode_eq_some.1 hsk
    obtain ⟨-, p2, p3⟩ := pk_decode_eq_some.1 hpk
    rw [publicKey_compressed, s3, p2, e] at he
    rw [e] at s2
    exact ⟨h1, s2, Option.isSome_iff_exists.2 ⟨_, p3⟩, he⟩
  · rintro ⟨h1, s2, p3, he⟩
    obtain ⟨A, hA⟩ := Option.isSome_iff_exists.1 p3
    rw [← e] at s2 he
    exact ⟨⟨⟨leNat (bslice (bslice b 0 64) 0 32), bslice (bslice b 0 64) 32 32⟩, ⟨bslice b 64 32, A⟩⟩,
      kp_decode_eq_some.2 ⟨h1, sk_decode_eq_some.2 ⟨bslice_size_of_le (by omega), s2, rfl, rfl⟩,
        pk_decode_eq_some.2 ⟨bslice_size_of_le (by omega), rfl, hA⟩, (publicKey_compressed _).trans he⟩⟩

theorem kp_roundtrip {b : Bytes} {kp : KeyPair} (h : decodeKeyPair b = some kp) : kp.marshal = b := by
  obtain ⟨h1, h2, h3, -⟩ := kp_decode_eq_some.1 h
  unfold KeyPair.marshal
  rw [sk_roundtrip h2, pk_roundtrip h3]
  exact split_at b 64 32 h1

theorem kp_consistent {b : Bytes} {kp : KeyPair} (h : decodeKeyPair b = some kp) :
    kp.pk.compressed = kp.sk.publicKey.compressed :=
  (kp_decode_eq_some.1 h).2.2.2.symm

end Decoders

section Cofactor

theorem shr3 (v : UInt8) : (v >>> 3).toNat = v.toNat / 8 := by
  rw [UInt8.toNat_shiftRight]; simp [Nat.shiftRight_eq_div_pow]

theorem and7shl5 (v : UInt8) : ((v &&& 7) <<< 5).toNat = 32 * (v.toNat % 8) := by
  rw [UInt8.toNat_shiftLeft, UInt8.toNat_and]
  have h7 : (7 : UInt8).toNat = 2 ^ 3 - 1 := rfl
  have h5 : (5 : UInt8).toNat % 8 = 5 := rfl
  rw [h7, Nat.and_two_pow_sub_one_eq_mod, h5, Nat.shiftLeft_eq]
  have := v.toNat_lt
  omega

/-- the body of the Go loop: `v := b[i]; r := v & 7; v >>= 3; out[i] = v + low; low = r << 5` -/
def stepD (v : UInt8) (acc : List UInt8 × UInt8) : List UInt8 × UInt8 :=
  (((v >>> 3) + acc.2) :: acc.1, (v &&& 7) <<< 5)

/-- from the most significant byte down; the carry `low` holds the three dropped bits in its top three positions, so no
    byte addition wraps -/
theorem loop_inv (l : List UInt8) :
    leList (l.foldr stepD ([], 0)).1 = leList l / 8 ∧ (l.foldr stepD ([], 0)).2.toNat = 32 * (leList l % 8) ∧
      (l.foldr stepD ([], 0)).1.length = l.length := by
  induction l with
  | nil => simp [leList]
  | cons x l ih =>
    obtain ⟨i1, i2, i3⟩ := ih
    rw [List.foldr_cons]
    generalize l.foldr stepD ([], 0) = r at *
    have hx := x.toNat_lt
    have hadd : ((x >>> 3) + r.2).toNat = x.toNat / 8 + r.2.toNat := by
      rw [UInt8.toNat_add, shr3]; exact Nat.mod_eq_of_lt (by omega)
    simp only [stepD, leList, hadd, and7shl5, List.length_cons, i3, and_true]
    omega

theorem ofL_toList (l : List UInt8) : (ofL l).data.toList = l := by simp [ofL]

theorem divideByCofactorLoop_value (b : Bytes) :
    leNat (divideByCofactorLoop b) = leNat b / 8 ∧ (divideByCofactorLoop b).size = b.size := by
  have key : divideByCofactorLoop b = ofL (b.data.toList.foldr stepD ([], 0)).1 := by
    unfold divideByCofactorLoop
    simp only [List.foldl_reverse]
    rfl
  obtain ⟨i1, -, i3⟩ := loop_inv b.data.toList
  rw [key]
  constructor
  · rw [leNat_eq, ofL_toList, leNat_eq, i1]
  · show (ofL _).data.size = b.data.size
    rw [← Array.length_toList, ofL_toList, i3, Array.length_toList]

theorem scalarDivideByCofactor_eq (b : Bytes) (hb : b.size = 32) : scalarDivideByCofactor b = leNat b / 8 := by
  unfold scalarDivideByCofactor
  have := leNat_lt_of_size hb
  omega

/-- C12: the Spec function is the byte loop of the Go code (the `#guard` of the Spec, for all inputs) -/
theorem scalarDivideByCofactor_loop (b : Bytes) (hb : b.size = 32) :
    natLE (scalarDivideByCofactor b) 32 = divideByCofactorLoop b := by
  obtain ⟨h1, h2⟩ := divideByCofactorLoop_value b
  rw [scalarDivideByCofactor_eq b hb, ← h1]
  exact natLE_leNat_of_size (h2.trans hb)

/-- `h0`, `h31`: clamped, which `ExpandEd25519` produces and `NewSecretKeyFromEd25519Bytes` requires; then no remainder
    is lost -/
theorem scalarDivideByCofactor_clamped (b : Bytes) (hb : b.size = 32) (h0 : (b.get! 0).toNat % 8 = 0)
    (h31 : (b.get! 31).toNat / 64 = 1) :
    8 * scalarDivideByCofactor b = leNat b ∧ 2 ^ 251 ≤ scalarDivideByCofactor b ∧
      scalarDivideByCofactor b < 2 ^ 252 ∧ scalarDivideByCofactor b < L := by
  rw [scalarDivideByCofactor_eq b hb]
  rw [get!_toNat b 0 (by omega)] at h0
  rw [get!_last (n := 31) hb] at h31
  have hL : 2 ^ 252 < L := by decide
  omega

theorem leNat_clampEd25519 (d : Bytes) : leNat (clampEd25519 d) = leNat d % 2 ^ 254 / 8 * 8 + 2 ^ 254 := by
  unfold clampEd25519
  rw [leNat_natLE]
  exact Nat.mod_eq_of_lt (by omega)

theorem clampEd25519_clamped (d : Bytes) :
    (clampEd25519 d).size = 32 ∧ ((clampEd25519 d).get! 0).toNat % 8 = 0 ∧ ((clampEd25519 d).get! 31).toNat / 64 = 1 := by
  have hs : (clampEd25519 d).size = 32 := natLE_size _ _
  refine ⟨hs, ?_, ?_⟩
  · rw [get!_toNat _ 0 (by omega), leNat_clampEd25519]
    omega
  · rw [get!_last (n := 31) hs, leNat_clampEd25519]
    omega

theorem expandEd25519_key (msk : Bytes) :
    8 * (expandEd25519 msk).key = leNat (clampEd25519 (bslice (sha512 msk) 0 32)) ∧ (expandEd25519 msk).key < L := by
  obtain ⟨h1, h2, h3⟩ := clampEd25519_clamped (bslice (sha512 msk) 0 32)
  obtain ⟨a, -, -, d⟩ := scalarDivideByCofactor_clamped _ h1 h2 h3
  exact ⟨a, d⟩

end Cofactor

/-- What `Sign` / `Verify` use of ristretto255 and of the Merlin transcript. -/
structure SrIface where
  /-- group elements (`curve.RistrettoPoint` up to ristretto equality) -/
  G : Type
  zero : G
  add : G → G → G
  neg : G → G
  smul : ℕ → G → G
  B : G
  /-- `RistrettoPoint.SetCompressed` -/
  decode : Bytes → Option G
  /-- `CompressedRistretto.SetRistrettoPoint` -/
  encode : G → Bytes
  /-- `RistrettoPoint.IsIdentity` -/
  isIdentity : G → Bool
  L : ℕ
  /-- `SigningTranscript` -/
  T : Type
  /-- what the transcript layer can do besides returning a value -/
  E : Type
  /-- `deriveVerifyChallengeScalar`: from the transcript, the compressed public key and the compressed R -/
  challenge : T → Bytes → Bytes → Except E ℕ

namespace SrG
variable (I : SrIface)

/-- `TripleScalarMulBasepointVartime(k, −A, s, R).IsIdentity()` by value: `[k](−A) + [s]B − R = 0`; the sum starts from
    `I.zero` as the `foldl` of `Ristretto.msm` does, so that the concrete instance unfolds to the Spec's `verifyEquation` -/
def verifyEquation (k : ℕ) (A : I.G) (s : ℕ) (R : I.G) : Bool :=
  I.isIdentity (I.add (I.add (I.add I.zero (I.smul k (I.neg A))) (I.smul s I.B)) (I.neg R))

/-- `(*PublicKey).Verify` on initialised values: R is decompressed lazily, here -/
def verify (pkBytes : Bytes) (A : I.G) (t : I.T) (rBytes : Bytes) (s : ℕ) : Except I.E Bool :=
  match I.decode rBytes with
  | none => .ok false
  | some R =>
    match I.challenge t pkBytes rBytes with
    | .error e => .error e
    | .ok k => .ok (verifyEquation I k A s R)

/-- `(*KeyPair).Sign` with the witness scalar `r` as an argument -/
def signWith (a r : ℕ) (pkBytes : Bytes) (t : I.T) : Except I.E (Bytes × ℕ) :=
  match I.challenge t pkBytes (I.encode (I.smul r I.B)) with
  | .error e => .error e
  | .ok k => .ok (I.encode (I.smul r I.B), ((k * a) % I.L + r) % I.L)

end SrG

theorem signWith_eq_ok (I : SrIface) {a r : ℕ} {pkBytes : Bytes} {t : I.T} {R : Bytes} {s : ℕ} :
    SrG.signWith I a r pkBytes t = .ok (R, s) ↔
      ∃ k, I.challenge t pkBytes (I.encode (I.smul r I.B)) = .ok k ∧ R = I.encode (I.smul r I.B) ∧
        s = ((k * a) % I.L + r) % I.L := by
  unfold SrG.signWith
  rcases I.challenge t pkBytes (I.encode (I.smul r I.B)) with e | k
  · simp only [reduceCtorEq, false_and, exists_false]
  · simp only [Except.ok.injEq, Prod.mk.injEq, exists_eq_left', eq_comm (a := R), eq_comm (a := s)]

theorem verify_eq_ok_true (I : SrIface) {pkBytes : Bytes} {A : I.G} {t : I.T} {rBytes : Bytes} {s : ℕ} :
    SrG.verify I pkBytes A t rBytes s = .ok true ↔
      ∃ R k, I.decode rBytes = some R ∧ I.challenge t pkBytes rBytes = .ok k ∧
        SrG.verifyEquation I k A s R = true := by
  unfold SrG.verify
  rcases I.decode rBytes with _ | R
  · simp only [Except.ok.injEq, Bool.false_eq_true, reduceCtorEq, false_and, exists_false]
  rcases I.challenge t pkBytes rBytes with e | k
  · simp only [reduceCtorEq, false_and, and_false, exists_false]
  · simp only [Except.ok.injEq, Option.some.injEq, exists_and_left, exists_eq_left']

/-- The laws of a prime-order group with a canonical encoding (ristretto255: C11 and the group law of C03 on the
    quotient by the 4-torsion). -/
structure SrLaws (I : SrIface) [AddCommGroup I.G] : Prop where
  zero_eq : I.zero = 0
  add_eq : ∀ P Q : I.G, I.add P Q = P + Q
  neg_eq : ∀ P : I.G, I.neg P = -P
  smul_eq : ∀ (n : ℕ) (P : I.G), I.smul n P = n • P
  L_prime : Nat.Prime I.L
  L_all : ∀ P : I.G, I.L • P = 0
  B_ne : I.B ≠ 0
  isIdentity_iff : ∀ P : I.G, I.isIdentity P = true ↔ P = 0
  decode_encode : ∀ P : I.G, I.decode (I.encode P) = some P

section Abstract
variable (I : SrIface) [AddCommGroup I.G]

theorem SrLaws.encode_injective {I : SrIface} [AddCommGroup I.G] (h : SrLaws I) : Function.Injective I.encode := by
  intro P Q hPQ
  have := h.decode_encode P
  rw [hPQ, h.decode_encode Q] at this
  exact (Option.some.inj this).symm

theorem verifyEquation_iff (h : SrLaws I) (k : ℕ) (A : I.G) (s : ℕ) (R : I.G) :
    SrG.verifyEquation I k A s R = true ↔ R = s • I.B - k • A := by
  unfold SrG.verifyEquation
  rw [h.isIdentity_iff, h.add_eq, h.add_eq, h.add_eq, h.neg_eq, h.neg_eq, h.smul_eq, h.smul_eq, h.zero_eq, smul_neg,
    zero_add, ← sub_eq_add_neg, sub_eq_zero, eq_comm, neg_add_eq_sub]

/-- C12 completeness: the signature that `signWith` returns verifies under `A = a•B`, for every secret scalar `a` and
    every witness `r` (whatever the transcript RNG and the entropy produced) -/
theorem sr_complete (h : SrLaws I) (a r : ℕ) (pkBytes : Bytes) (t : I.T) {R : Bytes} {s : ℕ}
    (hs : SrG.signWith I a r pkBytes t = .ok (R, s)) :
    SrG.verify I pkBytes (a • I.B) t R s = .ok true := by
  obtain ⟨k, hk, rfl, rfl⟩ := (signWith_eq_ok I).1 hs
  refine (verify_eq_ok_true I).2 ⟨_, k, h.decode_encode _, hk, (verifyEquation_iff I h _ _ _ _).2 ?_⟩
  -- `(k·a % L + r) % L` brought to the form `(r + k·a) % L` of `response_equation`
  rw [h.smul_eq, Nat.mod_add_mod, Nat.add_comm, response_equation (h.L_all _)]

theorem sr_sign_error_iff (a r : ℕ) (pkBytes : Bytes) (t : I.T) (e : I.E) :
    SrG.signWith I a r pkBytes t = .error e ↔ I.challenge t pkBytes (I.encode (I.smul r I.B)) = .error e := by
  unfold SrG.signWith
  rcases I.challenge t pkBytes (I.encode (I.smul r I.B)) with e' | k <;> simp

theorem sr_sign_s_lt (h : SrLaws I) (a r : ℕ) (pkBytes : Bytes) (t : I.T) {R : Bytes} {s : ℕ}
    (hs : SrG.signWith I a r pkBytes t = .ok (R, s)) : s < I.L := by
  obtain ⟨k, -, -, rfl⟩ := (signWith_eq_ok I).1 hs
  exact Nat.mod_lt _ h.L_prime.pos

/-- C12 S-uniqueness: for a fixed R string, key and transcript (hence a fixed challenge) at most one `s < L` verifies -/
theorem sr_S_unique (h : SrLaws I) (pkBytes : Bytes) (A : I.G) (t : I.T) (rBytes : Bytes) {s s' : ℕ}
    (hs : s < I.L) (hs' : s' < I.L)
    (hv : SrG.verify I pkBytes A t rBytes s = .ok true) (hv' : SrG.verify I pkBytes A t rBytes s' = .ok true) :
    s = s' := by
  obtain ⟨R, k, hR, hk, he⟩ := (verify_eq_ok_true I).1 hv
  obtain ⟨R', k', hR', hk', he'⟩ := (verify_eq_ok_true I).1 hv'
  rw [hR] at hR'; cases hR'
  rw [hk] at hk'; cases hk'
  rw [verifyEquation_iff I h] at he he'
  -- one commitment, one challenge: `(s − s')•B = (k − k)•A = 0`
  have key := transcripts_sub he he'
  rw [sub_self, zero_smul] at key
  exact eq_of_lt_of_dvd_sub hs hs' (dvd_of_zsmul_eq_zero h.L_prime (h.L_all _) h.B_ne key)

/-- so changing any bit of the `s` half (the marker bit included) of a valid signature makes it invalid or undecodable -/
theorem sr_sig_bytes_unique (h : SrLaws I) (hL : I.L = Voi.Spec.L) (pkBytes : Bytes) (A : I.G) (t : I.T)
    {b b' : Bytes} {sig sig' : Signature} (hd : decodeSignature b = some sig) (hd' : decodeSignature b' = some sig')
    (hr : sig.r = sig'.r)
    (hv : SrG.verify I pkBytes A t sig.r sig.s = .ok true) (hv' : SrG.verify I pkBytes A t sig'.r sig'.s = .ok true) :
    b = b' := by
  obtain ⟨-, -, l1, -, e1⟩ := sig_decode_eq_some.1 hd
  obtain ⟨-, -, l2, -, e2⟩ := sig_decode_eq_some.1 hd'
  rw [← e1] at l1
  rw [← e2] at l2
  rw [← hr] at hv'
  have := sr_S_unique I h pkBytes A t sig.r (hL ▸ l1) (hL ▸ l2) hv hv'
  rw [← sig_roundtrip hd, ← sig_roundtrip hd']
  unfold Signature.marshal
  rw [hr, this]

/-- R is validated at verification time, not by the decoder -/
theorem sr_reject_bad_R (pkBytes : Bytes) (A : I.G) (t : I.T) (rBytes : Bytes) (s : ℕ)
    (hR : I.decode rBytes = none) : SrG.verify I pkBytes A t rBytes s = .ok false := by
  unfold SrG.verify; rw [hR]

end Abstract

def concreteSr : SrIface where
  G := Ext
  zero := Ext.zero
  add := Ristretto.add
  neg := Ristretto.neg
  smul := Ristretto.smul
  B := Ristretto.B
  decode := Ristretto.decode
  encode := Ristretto.encode
  isIdentity := Ristretto.isIdentity
  L := Voi.Spec.L
  T := Merlin.Transcript
  E := Merlin.MErr
  challenge := fun t pk r => do
    let t ← signingPrefix t pk
    let t ← commitBytes t "sign:R" r
    let (_, k) ← challengeScalar t "sign:c"
    return k

section Concrete

-- the fields of `concreteSr`, for rewriting: `rfl`, `unfold` or `simp only [concreteSr]` at a use site would make the
-- kernel unfold the curve arithmetic
theorem cS_zero : concreteSr.zero = Ext.zero := rfl
theorem cS_add : concreteSr.add = Ristretto.add := rfl
theorem cS_neg : concreteSr.neg = Ristretto.neg := rfl
theorem cS_smul : concreteSr.smul = Ristretto.smul := rfl
theorem cS_B : concreteSr.B = Ristretto.B := rfl
theorem cS_decode : concreteSr.decode = Ristretto.decode := rfl
theorem cS_encode : concreteSr.encode = Ristretto.encode := rfl
theorem cS_isIdentity : concreteSr.isIdentity = Ristretto.isIdentity := rfl
theorem cS_L : concreteSr.L = Voi.Spec.L := rfl
theorem cS_challenge (t : Merlin.Transcript) (pk r : Bytes) :
    concreteSr.challenge t pk r = (do
      let t ← signingPrefix t pk
      let t ← commitBytes t "sign:R" r
      let (_, k) ← challengeScalar t "sign:c"
      return k) := rfl

theorem challenge_concrete (pk : PublicKey) (t : Merlin.Transcript) (sig : Signature) :
    concreteSr.challenge t pk.compressed sig.r = deriveVerifyChallengeScalar pk t sig := by
  rw [cS_challenge]; unfold deriveVerifyChallengeScalar; rfl

theorem msm2 (k s : ℕ) (P Q : Ext) :
    Ristretto.msm [k, s] [P, Q] = Ext.add (Ext.add Ext.zero (Ext.smul k P)) (Ext.smul s Q) := by
  unfold Ristretto.msm
  have : List.zip [k, s] [P, Q] = [(k, P), (s, Q)] := rfl
  rw [this, List.foldl_cons, List.foldl_cons, List.foldl_nil]

theorem verifyEquation_concrete (k : ℕ) (A : Ext) (s : ℕ) (R : Ext) :
    SrG.verifyEquation concreteSr k A s R = verifyEquation k A s R := by
  -- not `unfold`: with arguments typed in `Ext` instead of `concreteSr.G` the pattern is not found
  refine (SrG.verifyEquation.eq_1 concreteSr k A s R).trans ?_
  rw [cS_isIdentity, cS_add, cS_neg, cS_smul, cS_zero, cS_B]
  unfold verifyEquation
  rw [msm2]
  unfold Ristretto.add Ristretto.sub Ristretto.smul Ristretto.neg
  rfl

theorem srG_verify_concrete (pk : PublicKey) (t : Merlin.Transcript) (sig : Signature) :
    SrG.verify concreteSr pk.compressed pk.point t sig.r sig.s = Voi.Spec.Sr25519.verify pk t sig := by
  refine (SrG.verify.eq_1 concreteSr _ _ _ _ _).trans ?_
  rw [Voi.Spec.Sr25519.verify.eq_1, challenge_concrete, cS_decode]
  rcases Ristretto.decode sig.r with _ | R
  · rfl
  · simp only [verifyEquation_concrete]
    rcases deriveVerifyChallengeScalar pk t sig with e | k
    · rfl
    · rfl

/-- `sign` is `signWith` at the witness scalar drawn from the transcript RNG: signer and verifier derive the same
    challenge from `(transcript, pk, R)` -/
theorem srG_sign_concrete (kp : KeyPair) (t : Merlin.Transcript) (entropy : Bytes) :
    Voi.Spec.Sr25519.sign kp t entropy = do
      let t' ← signingPrefix t kp.pk.compressed
      let r ← witnessScalar t' "signing" [kp.sk.nonce] entropy
      let Rs ← SrG.signWith concreteSr kp.sk.key r kp.pk.compressed t
      return { r := Rs.1, s := Rs.2 } := by
  rw [Voi.Spec.Sr25519.sign]
  simp only [SrG.signWith, cS_challenge, cS_encode, cS_smul, cS_B, cS_L, Sc.add, Sc.mul, bind, Except.bind]
  rcases signingPrefix t kp.pk.compressed with e | t'
  · rfl
  · simp only
    rcases witnessScalar t' "signing" [kp.sk.nonce] entropy with e | r
    · rfl
    · simp only
      rcases commitBytes t' "sign:R" (Ristretto.encode (Ristretto.smul r Ristretto.B)) with e | t''
      · rfl
      · simp only
        rcases challengeScalar t'' "sign:c" with e | ⟨t3, k⟩
        · rfl
        · rfl

/-- What completeness of the concrete `sign`/`verify` needs of the ristretto255 Spec (representatives in extended
    coordinates, `Ristretto.equal` as equality): the encoding of `[r]B` decodes, and the verification equation holds for
    the decoded representative.  Consequences of C11 (`decode ∘ encode ≈ id` on the image) and of the group law on the
    quotient (C03) — not proved here. -/
def RistrettoSignFacts : Prop :=
  ∀ a r k : ℕ, ∃ R : Ext, Ristretto.decode (Ristretto.encode (Ristretto.smul r Ristretto.B)) = some R ∧
    verifyEquation k (Ristretto.smul a Ristretto.B) (Sc.add (Sc.mul k a) r) R = true

def sr_complete_concrete_statement : Prop :=
  ∀ (kp : KeyPair) (t : Merlin.Transcript) (entropy : Bytes) (sig : Signature),
    kp.pk = kp.sk.publicKey → Voi.Spec.Sr25519.sign kp t entropy = .ok sig →
    Voi.Spec.Sr25519.verify kp.pk t sig = .ok true

/-- proved for the concrete Spec: the transcript part (signer and verifier compute the same challenge; a signing error is
    a transcript error).  Missing: exactly `RistrettoSignFacts`. -/
theorem sr_complete_concrete_partial (hG : RistrettoSignFacts) : sr_complete_concrete_statement := by
  intro kp t entropy sig hpk hs
  rw [srG_sign_concrete] at hs
  obtain ⟨t', -, hs⟩ := bind_eq_ok.1 hs
  obtain ⟨r, -, hs⟩ := bind_eq_ok.1 hs
  obtain ⟨⟨Rb, s⟩, h3, hs⟩ := bind_eq_ok.1 hs
  cases hs
  obtain ⟨k, hk, rfl, rfl⟩ := (signWith_eq_ok concreteSr).1 h3
  obtain ⟨R, hR, hE⟩ := hG kp.sk.key r k
  rw [← srG_verify_concrete]
  refine (verify_eq_ok_true concreteSr).2 ⟨R, k, ?_, hk, ?_⟩
  · rw [cS_decode, cS_encode, cS_smul, cS_B]
    exact hR
  · rw [verifyEquation_concrete, hpk, cS_L]
    exact hE

end Concrete

section Batch

/-- it holds after every history of calls (`binv_new`, `binv_add`, `binv_reset`); that induction is not written out -/
def BInv (v : BatchVerifier) : Prop := v.anyInvalid = v.entries.any (fun e => !e.canBeValid)

theorem binv_new : BInv {} := rfl

theorem binv_reset (v : BatchVerifier) : BInv v.reset := rfl

theorem binv_add {v v' : BatchVerifier} {pk : Option PublicKey} {t : Merlin.Transcript} {sig : Option Signature}
    (hi : BInv v) (h : v.add pk t sig = .ok v') : BInv v' := by
  rw [BatchVerifier.add.eq_1] at h
  obtain ⟨e, -, h⟩ := bind_eq_ok.1 h
  cases h
  unfold BInv at hi ⊢
  simp only [List.any_append, List.any_cons, List.any_nil, Bool.or_false, hi]

/-- `{}` is stored for an uninitialised key/signature or an undecodable R -/
theorem serial_default : Entry.serial {} = false := by
  rw [Entry.serial.eq_1]; rfl

theorem canBeValid_of_serial {e : Entry} (h : e.serial = true) : e.canBeValid = true := by
  rw [Entry.serial.eq_1, Bool.and_eq_true] at h
  exact h.1

/-- C12: the serial verdict of the entry that `Add` makes of a key, transcript and signature is what `Verify` returns for
    these.  Stated for one entry; not composed with `batch_eq_single` into a statement about the entries of a history. -/
theorem entry_serial_eq_single {pk : Option PublicKey} {t : Merlin.Transcript} {sig : Option Signature} {e : Entry}
    (h : Entry.doInit pk t sig = .ok e) : verifyRecv pk t sig = .ok e.serial := by
  rcases pk with _ | pk
  · cases h; exact congrArg Except.ok serial_default.symm
  rcases sig with _ | sig
  · cases h; exact congrArg Except.ok serial_default.symm
  revert h
  unfold Entry.doInit verifyRecv Voi.Spec.Sr25519.verify
  simp only
  rcases Ristretto.decode sig.r with _ | R
  · intro h; cases h; exact congrArg Except.ok serial_default.symm
  intro h
  obtain ⟨k, hk, h⟩ := bind_eq_ok.1 h
  obtain ⟨wb, -, h⟩ := bind_eq_ok.1 h
  cases h
  -- `true && _` is rewritten: left to `rfl`, the kernel would evaluate `verifyEquation`
  simp only [hk, Entry.serial.eq_1, Bool.true_and]
  rfl

theorem batch_empty (v : BatchVerifier) (rand : Bytes) (he : v.entries = []) :
    v.verify rand = .ok (false, []) ∧ v.verifyBatchOnly rand = .ok false := by
  rw [BatchVerifier.verify.eq_1, BatchVerifier.verifyBatchOnly.eq_1, he]
  exact ⟨rfl, rfl⟩

theorem expected_allValid_iff (v : BatchVerifier) :
    v.expected.1 = true ↔ v.entries ≠ [] ∧ ∀ e ∈ v.entries, e.serial = true := by
  rw [BatchVerifier.expected.eq_1]
  simp only [Bool.and_eq_true, Bool.not_eq_true', List.isEmpty_eq_false_iff, List.all_eq_true, List.mem_map, id,
    forall_exists_index, and_imp, forall_apply_eq_imp_iff₂]

theorem expected_bits (v : BatchVerifier) : v.expected.2 = v.entries.map Entry.serial := rfl

theorem all_serial_false_of_anyInvalid {v : BatchVerifier} (hi : BInv v) (ha : v.anyInvalid = true) :
    (v.entries.map Entry.serial).all id = false := by
  unfold BInv at hi
  rw [hi, List.any_eq_true] at ha
  obtain ⟨e, he, hc⟩ := ha
  refine Bool.eq_false_iff.2 fun hall => ?_
  rw [canBeValid_of_serial (List.all_eq_true.1 hall _ (List.mem_map_of_mem he))] at hc
  cases hc

theorem batch_verify_eq (v : BatchVerifier) (rand : Bytes) :
    v.verify rand =
      if v.entries.isEmpty = true then .ok (false, []) else
      if v.anyInvalid = true then .ok (false, v.entries.map Entry.serial) else
      match v.verifyBatchOnly rand with
      | .error e => .error e
      | .ok true => .ok (true, v.entries.map (·.canBeValid))
      | .ok false => .ok ((v.entries.map Entry.serial).all id, v.entries.map Entry.serial) := by
  rw [BatchVerifier.verify.eq_1]
  cases v.entries.isEmpty
  · cases v.anyInvalid
    · rcases v.verifyBatchOnly rand with e | b
      · rfl
      · cases b <;> rfl
    · rfl
  · rfl

/-- C12 batch = serial: in every state with `BInv`, whenever `Verify` returns it returns `v.expected`.  `hfast` is the
    soundness of the delinearised equation for this call (it fails with probability ≤ 2^-128 over the `z_i`; idealised
    as in C09).  The converse needs no hypothesis: when the fast path says `false` the code falls back to the serial
    path. -/
theorem batch_eq_single {v : BatchVerifier} {rand : Bytes} {r : Bool × List Bool} (hi : BInv v)
    (hfast : v.verifyBatchOnly rand = .ok true → ∀ e ∈ v.entries, e.serial = true)
    (h : v.verify rand = .ok r) : r = v.expected := by
  rw [batch_verify_eq] at h
  rw [BatchVerifier.expected.eq_1]
  split_ifs at h with hE hA
  · cases h
    rw [List.isEmpty_iff.1 hE]; rfl
  · cases h
    rw [Bool.eq_false_iff.2 hE, all_serial_false_of_anyInvalid hi hA]; rfl
  rw [Bool.eq_false_iff.2 hE]
  split at h
  · cases h
  · next hb =>
    cases h
    -- the fast path said `true`: by `hfast` every entry is valid
    have hall := hfast hb
    have h1 : v.entries.map (·.canBeValid) = v.entries.map Entry.serial :=
      List.map_congr_left fun e he => (canBeValid_of_serial (hall e he)).trans (hall e he).symm
    have h2 : (v.entries.map Entry.serial).all id = true := by
      rw [List.all_map]; exact List.all_eq_true.2 hall
    rw [h1, h2]; rfl
  · cases h; rfl

/-- `.error` is a documented panic: short entropy reader, or a transcript-layer error -/
theorem batch_verify_error {v : BatchVerifier} {rand : Bytes} {e : SrErr} (h : v.verify rand = .error e) :
    v.entries ≠ [] ∧ v.anyInvalid = false ∧ v.verifyBatchOnly rand = .error e := by
  rw [batch_verify_eq] at h
  split_ifs at h with hE hA  -- the first two branches return `.ok`: closed at once
  split at h
  · next hb =>
    cases h
    exact ⟨fun h0 => hE (by rw [h0]; rfl), Bool.eq_false_iff.2 hA, hb⟩
  · cases h
  · cases h

end Batch

/-! Non-vacuity: a toy instance over ℤ/13; an element is encoded as 32 equal bytes and only that form decodes, so the
encoding is canonical -/
namespace Toy

abbrev G := ZMod 13

def enc (P : G) : Bytes := ⟨Array.replicate 32 (UInt8.ofNat P.val)⟩

def dec (b : Bytes) : Option G :=
  if b.size = 32 then
    (if Voi.beq (enc (((b.get! 0).toNat : ℕ) : G)) b then some (((b.get! 0).toNat : ℕ) : G) else none)
  else none

abbrev toySr : SrIface where
  G := G
  zero := 0
  add := fun P Q => P + Q
  neg := fun P => -P
  smul := fun n P => n • P
  B := 1
  decode := dec
  encode := enc
  isIdentity := fun P => decide (P = 0)
  L := 13
  T := Bytes
  E := Unit
  challenge := fun t pk r => .ok (leNat (t ++ pk ++ r) % 13)

theorem dec_enc : ∀ P : G, dec (enc P) = some P := by decide +kernel

theorem toySr_laws : SrLaws toySr where
  zero_eq := rfl
  add_eq := fun _ _ => rfl
  neg_eq := fun _ => rfl
  smul_eq := fun _ _ => rfl
  L_prime := by show Nat.Prime 13; norm_num
  L_all := fun P => by
    show (13 : ℕ) • (P : ZMod 13) = 0
    rw [nsmul_eq_mul, ZMod.natCast_self, zero_mul]
  B_ne := by show (1 : ZMod 13) ≠ 0; decide +kernel
  isIdentity_iff := fun _ => decide_eq_true_iff
  decode_encode := dec_enc

example (a r : ℕ) (pk t : Bytes) :
    ∃ R s, SrG.signWith toySr a r pk t = .ok (R, s) ∧ SrG.verify toySr pk (a • toySr.B) t R s = .ok true := by
  refine ⟨_, _, rfl, ?_⟩
  exact sr_complete toySr toySr_laws a r pk t rfl

/-- `a = 3`, `r = 5`; `s + 1` is rejected, in accordance with `sr_S_unique` -/
example : SrG.verify toySr (enc 3) (3 : G) (bytesOfList [116]) (enc 5)
    (((leNat (bytesOfList [116] ++ enc 3 ++ enc 5) % 13) * 3 % 13 + 5) % 13) = .ok true := by decide +kernel
example : SrG.verify toySr (enc 3) (3 : G) (bytesOfList [116]) (enc 5)
    ((((leNat (bytesOfList [116] ++ enc 3 ++ enc 5) % 13) * 3 % 13 + 5) + 1) % 13) = .ok false := by decide +kernel
/-- `natLE 5 32` is not a canonical encoding -/
example : SrG.verify toySr (enc 3) (3 : G) (bytesOfList [116]) (natLE 5 32) 0 = .ok false := by decide +kernel

end Toy

/-! the upstream schnorrkel vector -/

def vecSig : Bytes := ofHex! "4e172314444b8f820bb54c22e95076f220ed25373e5c178234aa6c211d292712" ++
  ofHex! "44b947e3ff3418ff6b45fd1df1140c8cbff69fc58ee6dc96df70936a2bb74b82"
def vecSigUnmarked : Bytes := ofHex! "4e172314444b8f820bb54c22e95076f220ed25373e5c178234aa6c211d292712" ++
  ofHex! "44b947e3ff3418ff6b45fd1df1140c8cbff69fc58ee6dc96df70936a2bb74b02"

example : (decodeSignature vecSig).isSome = true := by decide +kernel
example : (decodeSignature vecSigUnmarked).isSome = false := by decide +kernel
/-- the hypothesis of `sig_roundtrip` is satisfiable -/
example : ∃ sig, decodeSignature vecSig = some sig ∧ sig.marshal = vecSig := by
  rcases h : decodeSignature vecSig with _ | sig
  · exact absurd h (by decide +kernel)
  · exact ⟨sig, rfl, sig_roundtrip h⟩
/-- the schnorrkel `from_ed25519_bytes` documentation vector -/
example : 8 * scalarDivideByCofactor (ofHex! "28b0ae221c6bb06856b287f60d7ea0d98552ea5a16db16956849aa371db3eb51")
    = leNat (ofHex! "28b0ae221c6bb06856b287f60d7ea0d98552ea5a16db16956849aa371db3eb51") :=
  (scalarDivideByCofactor_clamped _ (by decide +kernel) (by decide +kernel) (by decide +kernel)).1

end Voi.Props.C12

section Axioms
open Voi.Props.C12
#print axioms Voi.Props.Bytes.get!_toNat
#print axioms Voi.Props.Bytes.leNat_append
#print axioms Voi.Props.Bytes.natLE_leNat
#print axioms Voi.Props.Bytes.natLE_add
#print axioms bind_eq_ok
#print axioms marker_byte
#print axioms sig_decode_iff
#print axioms sig_decode_eq_some
#print axioms sig_roundtrip
#print axioms sig_decode_ignores_R
#print axioms sk_decode_iff
#print axioms sk_decode_eq_some
#print axioms sk_roundtrip
#print axioms pk_decode_iff
#print axioms pk_decode_eq_some
#print axioms pk_roundtrip
#print axioms kp_decode_iff
#print axioms kp_decode_eq_some
#print axioms kp_roundtrip
#print axioms kp_consistent
#print axioms loop_inv
#print axioms divideByCofactorLoop_value
#print axioms scalarDivideByCofactor_eq
#print axioms scalarDivideByCofactor_loop
#print axioms scalarDivideByCofactor_clamped
#print axioms leNat_clampEd25519
#print axioms clampEd25519_clamped
#print axioms expandEd25519_key
#print axioms challenge_concrete
#print axioms verifyEquation_concrete
#print axioms srG_verify_concrete
#print axioms srG_sign_concrete
#print axioms signWith_eq_ok
#print axioms verify_eq_ok_true
#print axioms verifyEquation_iff
#print axioms SrLaws.encode_injective
#print axioms sr_complete
#print axioms sr_sign_error_iff
#print axioms sr_sign_s_lt
#print axioms sr_S_unique
#print axioms sr_sig_bytes_unique
#print axioms sr_reject_bad_R
#print axioms sr_complete_concrete_partial
#print axioms binv_add
#print axioms entry_serial_eq_single
#print axioms batch_empty
#print axioms expected_allValid_iff
#print axioms all_serial_false_of_anyInvalid
#print axioms batch_verify_eq
#print axioms batch_eq_single
#print axioms batch_verify_error
#print axioms Toy.toySr_laws
end Axioms


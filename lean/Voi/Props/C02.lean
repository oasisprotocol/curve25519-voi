/-
Property C02, the part that is mathematics, over the interface of `Voi.Model.Ed25519`: a signature made by
`SpecG.signWith` verifies under every option set (`sign_complete`; side conditions: A and R = r•B are not of small
order where the options forbid that, the first discharged for library keys by `clamp_not_dvd`); for fixed R bytes, key
and message at most one `S < L` verifies (`S_unique`); the code-shaped option handling computes the specification's
`modeOf` (`mode_eq`).  The byte-for-byte equality of keys and signatures with RFC 8032 is stream K1, which compares
`Voi.Spec.Ed25519.sign` with `PrivateKey.Sign`; `sign_concrete` ties that function to `SpecG.signWith concrete`.

Not a theorem, and it cannot be: that changing the message, the key, the context or an R bit makes verification fail.
That is collision resistance of SHA-512.
-/
import Voi.Props.C01
import Voi.Props.BytesMore

namespace Voi.Props.C02
open Voi Voi.Spec Voi.Model.Ed25519 Voi.Props.C01
open Voi.Spec.Ed25519 (VOpts Dom dom2 modeOf clamp)

/-- the nonce of `PrivateKey.Sign`: `r = H(dom2 ‖ [Z] ‖ prefix ‖ [padding] ‖ M) mod L` -/
def nonce (f : Dom) (ctx : Bytes) (entropy : Option Bytes) (priv msg : Bytes) : Nat :=
  let h := sha512 (bslice priv 0 32)
  let pfx := bslice h 32 32
  let d := dom2 f ctx
  let rIn := match entropy with
    | none => d ++ pfx ++ msg
    | some z => d ++ z ++ pfx ++ bzero (1024 - (d.size + 32 + 32)) ++ msg
  leNat (sha512 rIn) % L

section Concrete
-- the two bodies are compared as they are written: nothing below evaluates a Spec function
attribute [local irreducible] Pt.smul Pt.encode leNat sha512 dom2 Pt.B bslice natLE bzero clamp

theorem sign_concrete (f : Dom) (ctx : Bytes) (entropy : Option Bytes) (priv msg : Bytes) :
    Voi.Spec.Ed25519.sign f ctx entropy priv msg
      = SpecG.signWith concrete f ctx (clamp (sha512 (bslice priv 0 32))) (nonce f ctx entropy priv msg)
          (bslice priv 32 32) msg := by
  cases entropy <;> rfl
end Concrete

section Complete
variable (I : EdIface) [AddCommGroup I.G]

theorem signWith_slices (h : Laws I) (f : Dom) (ctx : Bytes) (a r : ℕ) (pk msg : Bytes) :
    (SpecG.signWith I f ctx a r pk msg).size = 64 ∧
    bslice (SpecG.signWith I f ctx a r pk msg) 0 32 = I.encode (r • I.B) ∧
    leNat (bslice (SpecG.signWith I f ctx a r pk msg) 32 32)
      = (r + SpecG.challenge I f ctx (I.encode (r • I.B)) pk msg * a) % I.L := by
  unfold SpecG.signWith
  simp only [h.smul_eq]
  have hlt : (r + SpecG.challenge I f ctx (I.encode (r • I.B)) pk msg * a) % I.L < 256 ^ 32 :=
    lt_trans (Nat.mod_lt _ h.L_prime.pos) (by rw [show (256 : ℕ) ^ 32 = 2 ^ 256 by norm_num]; exact h.L_lt)
  generalize (r + SpecG.challenge I f ctx (I.encode (r • I.B)) pk msg * a) % I.L = s at *
  have hr : (I.encode (r • I.B)).size = 32 := h.encode_size _
  have hsz : (natLE s 32).size = 32 := Bytes.natLE_size s 32
  refine ⟨?_, bslice_append_left hr, ?_⟩
  · rw [ByteArray.size_append, hr, hsz]
  · rw [bslice_append_right hr hsz, Bytes.leNat_natLE, Nat.mod_eq_of_lt hlt]

/-- C02: the signature is well formed.  `S < L` is stated twice, as a number and as `ScMinimalVartime` sees it. -/
theorem sign_S_canonical (h : Laws I) (f : Dom) (ctx : Bytes) (a r : ℕ) (pk msg : Bytes) :
    (SpecG.signWith I f ctx a r pk msg).size = 64 ∧
    leNat (bslice (SpecG.signWith I f ctx a r pk msg) 32 32) < I.L ∧
    I.isCanonicalEnc (bslice (SpecG.signWith I f ctx a r pk msg) 0 32) = true ∧
    I.scMinimal (bslice (SpecG.signWith I f ctx a r pk msg) 32 32) = true := by
  obtain ⟨h1, h2, h3⟩ := signWith_slices I h f ctx a r pk msg
  have hlt : leNat (bslice (SpecG.signWith I f ctx a r pk msg) 32 32) < I.L := by
    rw [h3]; exact Nat.mod_lt _ h.L_prime.pos
  refine ⟨h1, hlt, ?_, ?_⟩
  · rw [h2]; exact h.canonical_encode _
  · exact (h.scMinimal_iff _ (sigS_size h1)).2 hlt

/-- C02 completeness.  `pk` is any encoding of `A = a•B` that the options admit; the library's is `encode (a•B)`
    (`sign_complete_key`). -/
theorem sign_complete (h : Laws I) (o : VOpts) (f : Dom) (ctx msg : Bytes) (a r : ℕ) (pk : Bytes)
    (hpk : I.decode pk = some (a • I.B)) (hpkc : o.nonCanA = false → I.isCanonicalEnc pk = true)
    (hA : o.smallA = false → (8 : ℕ) • (a • I.B) ≠ 0)
    (hR : o.smallR = false → (8 : ℕ) • (r • I.B) ≠ 0) :
    SpecG.verify I o f ctx pk msg (SpecG.signWith I f ctx a r pk msg) = true := by
  obtain ⟨h1, h2, h3⟩ := signWith_slices I h f ctx a r pk msg
  obtain ⟨-, hlt, hcan, -⟩ := sign_S_canonical I h f ctx a r pk msg
  rw [specG_verify_iff I h]
  refine ⟨h1, hlt, a • I.B, r • I.B, hpk, ?_, hA, hR, hpkc, fun _ => hcan, ?_⟩
  · rw [h2]; exact h.decode_encode _
  · -- the verification equation holds exactly, not only up to torsion: `[S]B − [k]A = R`
    rw [h2, h3, response_equation h.L_B]
    split
    · rfl
    · rw [sub_self, smul_zero]

theorem sign_complete_key (h : Laws I) (o : VOpts) (f : Dom) (ctx msg : Bytes) (a r : ℕ)
    (hA : o.smallA = false → (8 : ℕ) • (a • I.B) ≠ 0)
    (hR : o.smallR = false → (8 : ℕ) • (r • I.B) ≠ 0) :
    SpecG.verify I o f ctx (I.encode (a • I.B)) msg (SpecG.signWith I f ctx a r (I.encode (a • I.B)) msg) = true :=
  sign_complete I h o f ctx msg a r _ (h.decode_encode _) (fun _ => h.canonical_encode _) hA hR

/-- for the code-shaped model: `SelfVerify` never fails, under the side conditions -/
theorem sign_complete_model (h : Laws I) (hExp : ExpHyp I) (hsv : ∀ k, k < I.L → ShortVecOK I k)
    (o : VOpts) (f : Dom) (ctx msg : Bytes) (a r : ℕ)
    (hA : o.smallA = false → (8 : ℕ) • (a • I.B) ≠ 0)
    (hR : o.smallR = false → (8 : ℕ) • (r • I.B) ≠ 0) :
    verify I o f ctx (I.encode (a • I.B)) msg (SpecG.signWith I f ctx a r (I.encode (a • I.B)) msg) = true := by
  rw [model_eq_spec I h hExp hsv]; exact sign_complete_key I h o f ctx msg a r hA hR

/-- the four presets: only the library default (which forbids small-order A) needs `hA`; none needs `hR` -/
theorem sign_complete_presets (h : Laws I) (f : Dom) (ctx msg : Bytes) (a r : ℕ)
    (hA : (8 : ℕ) • (a • I.B) ≠ 0) :
    let pk := I.encode (a • I.B)
    let sig := SpecG.signWith I f ctx a r pk msg
    SpecG.verify I VOpts.default f ctx pk msg sig = true ∧ SpecG.verify I VOpts.stdlib f ctx pk msg sig = true ∧
    SpecG.verify I VOpts.fips f ctx pk msg sig = true ∧ SpecG.verify I VOpts.zip215 f ctx pk msg sig = true := by
  refine ⟨?_, ?_, ?_, ?_⟩ <;>
    exact sign_complete_key I h _ f ctx msg a r (fun _ => hA) (fun hc => by cases hc)

def OrderExact : Prop := ∀ n : ℤ, n • I.B = 0 → (I.L : ℤ) ∣ n

/-- `L` is prime and kills `B`, so all that is needed is `B ≠ 0` -/
theorem orderExact_of_ne_zero (h : Laws I) (hB : I.B ≠ 0) : OrderExact I :=
  fun _ hn => dvd_of_zsmul_eq_zero h.L_prime h.L_B hB hn

theorem dvd_of_eight_smul (h : Laws I) (hOrd : OrderExact I) {z : ℤ} (hz : (8 : ℕ) • (z • I.B) = 0) :
    (I.L : ℤ) ∣ z := by
  have hd : (I.L : ℤ) ∣ 8 * z := hOrd _ (by rw [mul_smul, ← hz, ← natCast_zsmul]; rfl)
  have hcop : IsCoprime (I.L : ℤ) (8 : ℤ) := by simpa using Nat.isCoprime_iff_coprime.2 h.coprime8.symm
  exact hcop.dvd_of_dvd_mul_left hd

theorem not_smallOrder_of_order (h : Laws I) (hOrd : OrderExact I) {a : ℕ} (ha : ¬ I.L ∣ a) :
    (8 : ℕ) • (a • I.B) ≠ 0 := fun h0 =>
  ha (Int.natCast_dvd_natCast.1 (dvd_of_eight_smul I h hOrd (by rwa [natCast_zsmul])))

end Complete

theorem clamp_range (hb : Bytes) : 2 ^ 254 ≤ clamp hb ∧ clamp hb < 2 ^ 255 ∧ 8 ∣ clamp hb := by
  unfold clamp
  generalize leNat (bslice hb 0 32) = x
  dsimp only
  generalize x % 2 ^ 255 / 8 = y
  have hz : y * 8 % 2 ^ 254 < 2 ^ 254 := Nat.mod_lt _ (by norm_num)
  have h8 : 8 ∣ y * 8 % 2 ^ 254 := (Nat.dvd_mod_iff (by norm_num : 8 ∣ 2 ^ 254)).2 (Nat.dvd_mul_left 8 y)
  generalize y * 8 % 2 ^ 254 = z at hz h8
  refine ⟨by omega, by omega, ?_⟩
  exact Nat.dvd_add h8 (by norm_num)

/-- A clamped scalar is a multiple of 8 in `[2^254, 2^255)`; a multiple `L·q` of the odd `L` that is divisible by 8 has
    `8 ∣ q`, so it is `0` or `≥ 8L > 2^255`.  Hence the library's `A = [a]B` is never of small order, `B` having order
    exactly `L`. -/
theorem clamp_not_dvd (hb : Bytes) : ¬ L ∣ clamp hb := by
  obtain ⟨h1, h2, h8⟩ := clamp_range hb
  generalize clamp hb = c at *
  rintro ⟨q, rfl⟩
  have hcop : Nat.Coprime 8 L := by decide
  obtain ⟨t, rfl⟩ := hcop.dvd_of_dvd_mul_left h8
  have hL : 2 ^ 252 < L := by decide
  rcases Nat.eq_zero_or_pos t with rfl | ht
  · simp at h1
  · have h3 : L * (8 * 1) ≤ L * (8 * t) := Nat.mul_le_mul_left L (Nat.mul_le_mul_left 8 ht)
    omega

section Unique
variable (I : EdIface) [AddCommGroup I.G]

/-- C02, S-uniqueness: for fixed R bytes, key, message, context and options at most one `S` is accepted, cofactored
    or cofactorless. -/
theorem S_unique (h : Laws I) (hOrd : OrderExact I) (o : VOpts) (f : Dom) (ctx pk msg sig sig' : Bytes)
    (hRb : bslice sig' 0 32 = bslice sig 0 32)
    (hv : SpecG.verify I o f ctx pk msg sig = true) (hv' : SpecG.verify I o f ctx pk msg sig' = true) :
    leNat (bslice sig' 32 32) = leNat (bslice sig 32 32) := by
  rw [specG_verify_iff I h] at hv hv'
  obtain ⟨-, hs, A, R, hA, hR, -, -, -, -, he⟩ := hv
  obtain ⟨-, hs', A', R', hA', hR', -, -, -, -, he'⟩ := hv'
  rw [hRb] at hR' he'
  rw [hA] at hA'; cases hA'
  rw [hR] at hR'; cases hR'
  generalize leNat (bslice sig 32 32) = s at *
  generalize leNat (bslice sig' 32 32) = s' at *
  generalize SpecG.challenge I f ctx (bslice sig 0 32) pk msg = k at *
  -- under either equation  (s' − s) • B  is killed by 8
  have key : (8 : ℕ) • (((s' : ℤ) - s) • I.B) = 0 := by
    rw [sub_smul, natCast_zsmul, natCast_zsmul]
    split_ifs at he he'
    · have := h.encode_injective (he'.trans he.symm)
      rw [sub_left_inj] at this
      rw [this, sub_self, smul_zero]
    · rw [← sub_sub_sub_cancel_right _ _ (k • A), ← sub_sub_sub_cancel_right _ _ R, smul_sub, he, he', sub_zero]
  -- so s ≡ s' (mod L), and both are below L
  exact eq_of_lt_of_dvd_sub hs' hs (dvd_of_eight_smul I h hOrd key)

theorem S_unique_bytes (h : Laws I) (hOrd : OrderExact I) (o : VOpts) (f : Dom) (ctx pk msg sig sig' : Bytes)
    (hRb : bslice sig' 0 32 = bslice sig 0 32)
    (hv : SpecG.verify I o f ctx pk msg sig = true) (hv' : SpecG.verify I o f ctx pk msg sig' = true) :
    sig' = sig := by
  have hS := S_unique I h hOrd o f ctx pk msg sig sig' hRb hv hv'
  have hz : sig.size = 64 := ((specG_verify_iff I h o f ctx pk msg sig).1 hv).1
  have hz' : sig'.size = 64 := ((specG_verify_iff I h o f ctx pk msg sig').1 hv').1
  have hSb : bslice sig' 32 32 = bslice sig 32 32 :=
    Bytes.leNat_inj (by rw [sigS_size hz, sigS_size hz']) hS
  rw [← Bytes.split_at sig' 32 32 hz', hRb, hSb]
  exact Bytes.split_at sig 32 32 hz

theorem flip_S_rejected (h : Laws I) (hOrd : OrderExact I) (o : VOpts) (f : Dom) (ctx pk msg sig sig' : Bytes)
    (hv : SpecG.verify I o f ctx pk msg sig = true)
    (hRb : bslice sig' 0 32 = bslice sig 0 32) (hne : sig' ≠ sig) :
    SpecG.verify I o f ctx pk msg sig' = false := by
  rw [← Bool.not_eq_true]
  intro hv'
  exact hne (S_unique_bytes I h hOrd o f ctx pk msg sig sig' hRb hv hv')

end Unique

section Options

theorem modeOf_eq_some (o : Option VOpts) (ctx : Bytes) (a b : Bool) (n : ℕ) (f : Dom) :
    modeOf o ctx a b n = some f ↔
      ¬ (∃ v, o = some v ∧ v.nonCanR = true ∧ v.cofactorless = true) ∧ ctx.size ≤ 255 ∧ b = false ∧
        (a = true → n = 64) ∧ f = if a then some 1 else if ctx.size > 0 then some 0 else none := by
  unfold modeOf
  simp only [Option.ite_none_left_eq_some]
  refine and_congr ?_ (and_congr not_lt (and_congr (Iff.of_eq (Bool.not_eq_true b)) ?_))
  · cases o <;> simp
  · cases a <;> simp [eq_comm]

theorem modeOf_isSome_iff (o : Option VOpts) (ctx : Bytes) (a b : Bool) (n : ℕ) :
    (modeOf o ctx a b n).isSome = true ↔
      ¬ (∃ v, o = some v ∧ v.nonCanR = true ∧ v.cofactorless = true) ∧ ctx.size ≤ 255 ∧ b = false ∧
        (a = true → n = 64) := by
  simp only [Option.isSome_iff_exists, modeOf_eq_some, exists_and_left, exists_eq, and_true]

theorem modeOf_eq_none (o : Option VOpts) (ctx : Bytes) (a b : Bool) (n : ℕ) :
    modeOf o ctx a b n = none ↔
      (∃ v, o = some v ∧ v.nonCanR = true ∧ v.cofactorless = true) ∨ 255 < ctx.size ∨ b = true ∨
        (a = true ∧ n ≠ 64) := by
  rw [← Option.not_isSome_iff_eq_none, modeOf_isSome_iff]
  simp only [not_and_or, not_not, not_le, Bool.not_eq_false, Classical.not_imp]

theorem modeOf_incompatible (v : VOpts) (hv : v.nonCanR = true ∧ v.cofactorless = true) (ctx : Bytes) (a b : Bool)
    (n : ℕ) : modeOf (some v) ctx a b n = none :=
  (modeOf_eq_none ..).2 (.inl ⟨v, rfl, hv⟩)

theorem modeOf_ctx_too_long (o : Option VOpts) (ctx : Bytes) (hc : ctx.size > 255) (a b : Bool) (n : ℕ) :
    modeOf o ctx a b n = none :=
  (modeOf_eq_none ..).2 (.inr (.inl hc))

theorem modeOf_unsupported_hash (o : Option VOpts) (ctx : Bytes) (a : Bool) (n : ℕ) :
    modeOf o ctx a true n = none :=
  (modeOf_eq_none ..).2 (.inr (.inr (.inl rfl)))

theorem modeOf_ph_bad_length (o : Option VOpts) (ctx : Bytes) (b : Bool) (n : ℕ) (hn : n ≠ 64) :
    modeOf o ctx true b n = none :=
  (modeOf_eq_none ..).2 (.inr (.inr (.inr ⟨rfl, hn⟩)))

/-- the three values are Ed25519ph, Ed25519ctx and pure Ed25519 -/
theorem modeOf_value (o : Option VOpts) (ctx : Bytes) (a : Bool) (n : ℕ) {f : Dom}
    (hm : modeOf o ctx a false n = some f) :
    f = if a then some 1 else if ctx.size > 0 then some 0 else none :=
  ((modeOf_eq_some ..).1 hm).2.2.2.2

/-- the code-shaped option handling (`(*Options).verify` + `checkHash`, shared by `Sign` and `Verify`) computes the
    specification's `modeOf` and passes on the context and the effective `VerifyOptions` -/
theorem mode_eq (o : Option VOpts) (ctx : Bytes) (hs : HashSel) (n : ℕ) :
    mode o ctx hs n = (modeOf o ctx (decide (hs = .sha512)) (decide (hs = .other)) n).map
      fun f => (f, ctx, o.getD VOpts.default) := by
  -- `Verify == nil` evaluates like `VerifyOptionsDefault` on both sides
  suffices h : ∀ v : VOpts, mode (some v) ctx hs n =
      (modeOf (some v) ctx (decide (hs = .sha512)) (decide (hs = .other)) n).map fun f => (f, ctx, v) by
    cases o with
    | none => exact h VOpts.default
    | some v => exact h v
  intro v
  unfold mode optionsVerify modeOf
  dsimp only
  by_cases hi : (v.nonCanR && v.cofactorless) = true
  · rw [if_pos hi, if_pos hi]; rfl
  rw [if_neg hi, if_neg hi]
  rcases Nat.eq_zero_or_pos ctx.size with h0 | h0
  · -- an empty context is returned as `ByteArray.empty`
    obtain rfl := ByteArray.size_eq_zero_iff.1 h0
    cases hs <;> by_cases hn : n = 64 <;> simp [checkHash, hn]
  · by_cases h255 : ctx.size > 255
    · simp [h0, h255]
    · cases hs <;> by_cases hn : n = 64 <;> simp [checkHash, h0, h255, hn]

theorem mode_eq_modeOf (o : Option VOpts) (ctx : Bytes) (hs : HashSel) (n : ℕ) :
    (mode o ctx hs n).map (fun x => x.1) = modeOf o ctx (decide (hs = .sha512)) (decide (hs = .other)) n := by
  rw [mode_eq, Option.map_map]; exact Option.map_id'

theorem mode_eq_some (o : Option VOpts) (ctx : Bytes) (hs : HashSel) (n : ℕ) {f : Dom} {c : Bytes} {v : VOpts} :
    mode o ctx hs n = some (f, c, v) ↔
      modeOf o ctx (decide (hs = .sha512)) (decide (hs = .other)) n = some f ∧ c = ctx ∧ v = o.getD VOpts.default := by
  rw [mode_eq, Option.map_eq_some_iff]
  constructor
  · rintro ⟨f', hf, h⟩; cases h; exact ⟨hf, rfl, rfl⟩
  · rintro ⟨hf, rfl, rfl⟩; exact ⟨f, hf, rfl⟩

theorem mode_snd (o : Option VOpts) (ctx : Bytes) (hs : HashSel) (n : ℕ) {f : Dom} {c : Bytes} {v : VOpts}
    (hm : mode o ctx hs n = some (f, c, v)) : c = ctx ∧ v = o.getD VOpts.default :=
  ((mode_eq_some ..).1 hm).2

/-- `Model.verify` is never reached with the incompatible pair -/
theorem mode_admissible (o : Option VOpts) (ctx : Bytes) (hs : HashSel) (n : ℕ) {f : Dom} {c : Bytes} {v : VOpts}
    (hm : mode o ctx hs n = some (f, c, v)) : ¬ (v.nonCanR = true ∧ v.cofactorless = true) := by
  obtain ⟨hf, -, rfl⟩ := (mode_eq_some ..).1 hm
  rintro ⟨h1, h2⟩
  rcases o with _ | v
  · cases h1
  · exact ((modeOf_eq_some ..).1 hf).1 ⟨v, rfl, h1, h2⟩

theorem verifyWithOptions_panic_iff (I : EdIface) (o : Option VOpts) (hs : HashSel) (ctx pk msg sig : Bytes) :
    verifyWithOptions I o hs ctx pk msg sig = .panic ↔ pk.size ≠ 32 ∨ mode o ctx hs msg.size = none := by
  unfold verifyWithOptions
  by_cases hp : pk.size = 32
  · rcases hm : mode o ctx hs msg.size with _ | ⟨f, c, v⟩ <;> simp [hp]
  · simp [hp]

end Options

namespace Toy
open Voi.Props.C01.Toy

theorem toy_order : OrderExact toy := orderExact_of_ne_zero toy toy_laws (by decide)

example (o : VOpts) (f : Dom) (ctx msg : Bytes) :
    SpecG.verify toy o f ctx (toy.encode ((3 : ℕ) • toy.B)) msg
      (SpecG.signWith toy f ctx 3 2 (toy.encode ((3 : ℕ) • toy.B)) msg) = true :=
  sign_complete_key toy toy_laws o f ctx msg 3 2 (fun _ => by decide +kernel) (fun _ => by decide +kernel)

example (o : VOpts) (f : Dom) (ctx msg : Bytes) :
    verify toy o f ctx (toy.encode ((3 : ℕ) • toy.B)) msg
      (SpecG.signWith toy f ctx 3 2 (toy.encode ((3 : ℕ) • toy.B)) msg) = true :=
  sign_complete_model toy toy_laws toy_exp toy_sv o f ctx msg 3 2 (fun _ => by decide +kernel)
    (fun _ => by decide +kernel)

/-- the side condition `hR` cannot be dropped: with nonce `r = 0` the signature has `R = identity`, which flag set 0
    (no `AllowSmallOrderR`) rejects and the default preset accepts -/
example : SpecG.verify toy (VOpts.ofBits 0) none ByteArray.empty (toy.encode ((3 : ℕ) • toy.B)) ByteArray.empty
    (SpecG.signWith toy none ByteArray.empty 3 0 (toy.encode ((3 : ℕ) • toy.B)) ByteArray.empty) = false := by
  decide +kernel
example : SpecG.verify toy VOpts.default none ByteArray.empty (toy.encode ((3 : ℕ) • toy.B)) ByteArray.empty
    (SpecG.signWith toy none ByteArray.empty 3 0 (toy.encode ((3 : ℕ) • toy.B)) ByteArray.empty) = true := by
  decide +kernel

/-- the hypotheses of `flip_S_rejected` are satisfiable: the accepted toy signature of C01 and a copy with a bit of `S`
    flipped -/
example : SpecG.verify toy VOpts.default none ByteArray.empty pkT ByteArray.empty
    (bslice sigT 0 32 ++ natLE (3 ^^^ 4) 32) = false :=
  flip_S_rejected toy toy_laws toy_order VOpts.default none ByteArray.empty pkT ByteArray.empty sigT _
    (by decide +kernel) (by decide +kernel) (by decide +kernel)

example : ¬ toy.L ∣ 3 ∧ (8 : ℕ) • ((3 : ℕ) • toy.B) ≠ 0 :=
  ⟨by decide, not_smallOrder_of_order toy toy_laws toy_order (by decide)⟩

end Toy

/-- the bytes are the clamped first half of SHA-512(seed) of RFC 8032 test vector 1 -/
example : clamp (ofHex! "307c83864f2833cb427a2ef1c00a013cfdff2768d980c0a3a520f006904de94f") % 8 = 0 ∧
    ¬ L ∣ clamp (ofHex! "307c83864f2833cb427a2ef1c00a013cfdff2768d980c0a3a520f006904de94f") :=
  ⟨by decide +kernel, clamp_not_dvd _⟩

end Voi.Props.C02

section Axioms
open Voi.Props.C02
#print axioms sign_concrete
#print axioms signWith_slices
#print axioms sign_S_canonical
#print axioms sign_complete
#print axioms sign_complete_key
#print axioms sign_complete_model
#print axioms sign_complete_presets
#print axioms not_smallOrder_of_order
#print axioms clamp_range
#print axioms clamp_not_dvd
#print axioms S_unique
#print axioms S_unique_bytes
#print axioms flip_S_rejected
#print axioms mode_eq_modeOf
#print axioms mode_snd
#print axioms mode_admissible
#print axioms modeOf_incompatible
#print axioms modeOf_ctx_too_long
#print axioms modeOf_unsupported_hash
#print axioms modeOf_ph_bad_length
#print axioms modeOf_isSome_iff
#print axioms modeOf_value
#print axioms verifyWithOptions_panic_iff
#print axioms Toy.toy_order
end Axioms

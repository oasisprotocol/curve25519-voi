/-
C16, refinement: the word-level model `Word.fsvLoopW` (512/384-bit two's-complement words for `N_u, N_v, p`,
128-bit words for the coordinates, every primitive = integer arithmetic modulo 2^w) computes, for every scalar
`k < 2^255`, the words of the values computed by the integer-level model `fsvLoop` and takes the same decisions.

Not proved here (checked by stream L1, op by op): that the Go methods `PositiveLt`, `SafeToShrink`, `BitLen`,
`IsNegative`, `Add`, `AddShifted`, `SubShifted`, `Mul`, `FromInt512`, `Int128.add/sub/shl` and the constants agree with
the one-line arithmetic definitions in `Voi.Model.Lattice.Word`.
-/
import Voi.Props.LatticeInv
namespace Voi.Props.LatticeRefine
open Voi.Model.Lattice Voi.Model.Lattice.Word Voi.Props.LatticeInv

-- `decide` and `omega` evaluate `2 ^ 512` and the like; the default limit on exponents is 256
set_option exponentiation.threshold 1024

theorem wrap_cast (w : Nat) (x : Int) : ((wrap w x : Nat) : Int) = x % ((2 ^ w : Nat) : Int) :=
  Int.toNat_of_nonneg (Int.emod_nonneg _ (by have := Nat.two_pow_pos w; omega))

theorem sval_wrap {w : Nat} (hw : 0 < w) {x : Int}
    (h1 : -((2 ^ (w - 1) : Nat) : Int) ≤ x) (h2 : x < ((2 ^ (w - 1) : Nat) : Int)) : sval w (wrap w x) = x := by
  have hs := Nat.two_pow_pred_mul_two hw
  have hc := wrap_cast w x
  unfold sval
  by_cases hx : 0 ≤ x
  · rw [Int.emod_eq_of_lt hx (by omega)] at hc
    rw [if_pos (by omega)]; exact hc
  · rw [← Int.add_emod_right, Int.emod_eq_of_lt (by omega) (by omega)] at hc
    rw [if_neg (by omega)]; omega

/-- under `wrap w` a word may be replaced by any value it is the word of -/
theorem wrap_add_mul (w : Nat) (a b c : Int) :
    wrap w ((wrap w a : Int) + (wrap w b : Int) * c) = wrap w (a + b * c) := by
  rw [wrap_cast, wrap_cast]
  unfold wrap
  rw [Int.emod_add_emod, Int.add_emod, Int.mul_emod, Int.emod_emod, ← Int.mul_emod, ← Int.add_emod]

theorem addShifted_wrap (w : Nat) (a b : Int) (s : Nat) :
    addShifted w (wrap w a) (wrap w b) s = wrap w (a + shl b s) := wrap_add_mul ..

theorem subShifted_wrap (w : Nat) (a b : Int) (s : Nat) :
    subShifted w (wrap w a) (wrap w b) s = wrap w (a - shl b s) := by
  unfold subShifted shl
  rw [Int.sub_eq_add_neg, Int.sub_eq_add_neg, ← Int.mul_neg, ← Int.mul_neg]
  exact wrap_add_mul ..

theorem i128Add_shl (x y s : Nat) : i128Add x (i128Shl y s) = addShifted 128 x y s := by
  unfold i128Add i128Shl addShifted
  rw [wrap_cast]; unfold wrap; rw [Int.add_emod_emod]

theorem i128Sub_shl (x y s : Nat) : i128Sub x (i128Shl y s) = subShifted 128 x y s := by
  unfold i128Sub i128Shl subShifted
  rw [wrap_cast]; unfold wrap; rw [Int.sub_emod_emod]

theorem fromInt512_wrap (x : Int) : fromInt512 (wrap 512 x) = wrap 384 x := by
  apply Int.ofNat_inj.mp
  unfold fromInt512
  rw [Int.natCast_emod, wrap_cast, wrap_cast]
  exact Int.emod_emod_of_dvd x (by decide)

theorem wrap_cast_of_lt_bound {st : State} {x : Int} (h0 : 0 ≤ x) (h1 : x < bound st) :
    ((wrap (W st) x : Nat) : Int) = x := by
  have := Nat.two_pow_pred_mul_two (W_pos st)
  have := Nat.two_pow_pos (W st - 1)
  unfold bound at h1
  rw [wrap_cast, Int.emod_eq_of_lt h0 (by omega)]

/-- the word state holds the words of the value state -/
structure Sim (ws : WState) (st : State) : Prop where
  wide : ws.wide = st.wide
  nu : ws.nu = wrap (W st) st.nu
  nv : ws.nv = wrap (W st) st.nv
  p  : ws.p = wrap (W st) st.p
  u0 : ws.u0 = wrap 128 st.u0
  u1 : ws.u1 = wrap 128 st.u1
  v0 : ws.v0 = wrap 128 st.v0
  v1 : ws.v1 = wrap 128 st.v1

theorem width_eq {ws : WState} {st : State} (h : Sim ws st) : width ws = W st := by
  unfold width W; rw [h.wide]

theorem Sim.nu_cast {k : Int} {ws : WState} {st : State} (h : Sim ws st) (hi : Inv k st) (hr : RInv st) :
    (ws.nu : Int) = st.nu := by
  rw [h.nu]; exact wrap_cast_of_lt_bound (nu_nonneg hi) hr.nu_lt

theorem Sim.nv_cast {k : Int} {ws : WState} {st : State} (h : Sim ws st) (hi : Inv k st) (hr : RInv st) :
    (ws.nv : Int) = st.nv := by
  rw [h.nv]; exact wrap_cast_of_lt_bound (nv_nonneg hi) hr.nv_lt

/-- `PositiveLt` decides `N_u < N_v` when both fit -/
theorem swap_sim {k : Int} {ws : WState} {st : State} (h : Sim ws st) (hi : Inv k st) (hr : RInv st) :
    Sim (swapW ws) (swap st) := by
  have hdec : positiveLt ws.nu ws.nv = decide (st.nu < st.nv) := by
    unfold positiveLt
    rw [← h.nu_cast hi hr, ← h.nv_cast hi hr]
    exact decide_eq_decide.mpr Int.ofNat_lt.symm
  unfold swapW swap
  rw [hdec]
  by_cases hc : st.nu < st.nv
  · simp only [hc, decide_true, if_true]
    exact ⟨h.wide, h.nv, h.nu, h.p, h.v0, h.v1, h.u0, h.u1⟩
  · simp only [hc, decide_false, if_false]
    exact h

theorem swap_wide (st : State) : (swap st).wide = st.wide := by
  unfold swap; split <;> rfl

theorem head_sim {k : Int} {ws : WState} {st : State} (h : Sim ws st) (hi : Inv k st) (hr : RInv st) :
    Sim (headW ws) (narrow (swap st)) := by
  have h1 := swap_sim h hi hr
  have hi1 := inv_swap hi
  have hr1 := rinv_swap hr
  have hle := swap_le st
  unfold headW
  simp only
  generalize swap st = st1 at *
  generalize swapW ws = ws1 at *
  have hsafe : safeToShrinkW ws1.nu = safeToShrink st1 := by
    unfold safeToShrinkW safeToShrink
    rw [← h1.nu_cast hi1 hr1]
    exact decide_eq_decide.mpr Int.ofNat_lt.symm
  rw [h1.wide, hsafe]
  by_cases hc : (st1.wide && safeToShrink st1) = true
  · rw [if_pos hc]
    simp only [Bool.and_eq_true] at hc
    -- the pass switch: `FromInt512` of the three words
    have hW1 : W st1 = 512 := by unfold W; rw [hc.1]; rfl
    have hnw : (narrow st1).wide = false := by rw [narrow_wide, hc.1, hc.2]; rfl
    have hW2 : W (narrow st1) = 384 := by unfold W; rw [hnw]; rfl
    have key {y : Nat} {x : Int} (e : y = wrap (W st1) x) : fromInt512 y = wrap (W (narrow st1)) x := by
      rw [e, hW2, hW1, fromInt512_wrap]
    have hsim : Sim (toNarrow ws1) (narrow st1) :=
      ⟨hnw.symm, key h1.nu, key h1.nv, key h1.p, h1.u0, h1.u1, h1.v0, h1.v1⟩
    -- the repeated swap test is a no-op
    have h3 := swap_sim hsim (inv_narrow hi1) (rinv_narrow hi1 hle hr1)
    have : swap (narrow st1) = narrow st1 := by
      unfold swap; exact if_neg (Int.not_lt.2 (show st1.nv ≤ st1.nu from hle))
    rwa [this] at h3
  · rw [if_neg hc]
    have hnw : (narrow st1).wide = st1.wide := by
      rw [narrow_wide]
      cases hw : st1.wide <;> cases hs : safeToShrink st1 <;> simp_all
    have hW2 : W (narrow st1) = W st1 := by unfold W; rw [hnw]
    exact ⟨h1.wide.trans hnw.symm, hW2 ▸ h1.nu, hW2 ▸ h1.nv, hW2 ▸ h1.p, h1.u0, h1.u1, h1.v0, h1.v1⟩

/-- `BitLen` reads `N_v` exactly when it fits -/
theorem bitLen_nv_sim {ws : WState} {st : State} (h : Sim ws st) (hnv : 0 ≤ st.nv ∧ st.nv < bound st) :
    bitLenW (width ws) ws.nv = bitLen st.nv := by
  have h0 : -bound st ≤ st.nv := by
    have := hnv.2
    omega
  unfold bitLenW
  rw [width_eq h, h.nv, sval_wrap (W_pos st) h0 hnv.2]

/-- the non-modular reads `BitLen`, `IsNegative` are exact at a loop head, where `N_v` and `p` fit (`head_bounds`) -/
theorem update_sim {ws : WState} {st : State} (h : Sim ws st)
    (hf : (0 ≤ st.nv ∧ st.nv < bound st) ∧ (-bound st < st.p ∧ st.p < bound st)) :
    Sim (updateW ws) (update st) := by
  have hp : sval (width ws) ws.p = st.p := by
    rw [width_eq h, h.p, sval_wrap (W_pos st) (Int.le_of_lt hf.2.1) hf.2.2]
  have hs : bitLenW (width ws) ws.p - bitLenW (width ws) ws.nv = shiftAmt st := by
    unfold shiftAmt; rw [bitLen_nv_sim h hf.1]; unfold bitLenW; rw [hp]
  have hneg : isNeg (width ws) ws.p = decide (st.p < 0) := by unfold isNeg; rw [hp]
  rw [width_eq h] at hs hneg
  unfold updateW update
  simp only [width_eq h, hs, hneg, i128Sub_shl, i128Add_shl]
  obtain ⟨hw, hnu, hnv, hpp, hu0, hu1, hv0, hv1⟩ := h
  -- every new word is `Add/SubShifted` of old words, hence the word of the new value
  by_cases hc : 0 ≤ st.p
  · simp only [hc, Int.not_lt.2 hc, decide_false, Bool.not_false, if_true, hnu, hnv, hpp, hu0, hu1, hv0, hv1,
      addShifted_wrap, subShifted_wrap]
    exact ⟨hw, rfl, rfl, rfl, rfl, rfl, rfl, rfl⟩
  · simp only [hc, Int.not_le.1 hc, decide_true, Bool.not_true, if_false, hnu, hnv, hpp, hu0, hu1, hv0, hv1,
      addShifted_wrap, subShifted_wrap]
    exact ⟨hw, rfl, rfl, rfl, rfl, rfl, rfl, rfl⟩

theorem loop_sim {k : Int} : ∀ (n : Nat) {ws : WState} {st : State}, Sim ws st → Inv k st → RInv st →
    Sim (fsvLoopW n ws).1 (fsvLoop n st).1 ∧ (fsvLoopW n ws).2 = (fsvLoop n st).2
  | 0, _, _, h, _, _ => ⟨h, rfl⟩
  | n + 1, ws, st, h, hi, hr => by
    have hh := head_sim h hi hr
    have hi' := inv_head hi
    have hle : (narrow (swap st)).nv ≤ (narrow (swap st)).nu := swap_le st
    have hr' := rinv_head hi hr
    have hf := head_bounds hi' hle hr'.nu_lt
    have hex : decide (bitLenW (width (headW ws)) (headW ws).nv ≤ T) = exitNow (narrow (swap st)) := by
      rw [bitLen_nv_sim hh hf.1]; rfl
    rw [fsvLoop_succ]
    unfold fsvLoopW
    simp only [hex]
    split
    · exact ⟨hh, rfl⟩
    · rename_i he
      exact loop_sim n (update_sim hh hf) (inv_update hi') (rinv_update hi' hle he hr')

theorem init_sim (k : Nat) : Sim (initW k) (init k) := by
  refine ⟨rfl, rfl, ?_, ?_, rfl, rfl, rfl, rfl⟩
  · show addShifted 512 (mulW k k) 1 0 = wrap 512 ((k : Int) * k + 1)
    unfold mulW
    rw [(by decide : (1 : Nat) = wrap 512 1), addShifted_wrap]
    congr 1
  · show mulW L.toNat k = wrap 512 (L * k)
    unfold mulW
    rw [(by decide : ((L.toNat : Nat) : Int) = L)]

/-- C16, word level: for every `k < 2^255` and every fuel the two runs take the same decisions, and when the exit test
    fired the two returned `Int128`s read back (signed) as the integer-level `(d0, d1)`. -/
theorem refines {k : Nat} (hk : k < 2 ^ 255) (n : Nat) :
    (fsvLoopW n (initW k)).2 = (fsvLoop n (init k)).2 ∧
    ((fsvLoop n (init k)).2 = true →
      sval 128 (fsvLoopW n (initW k)).1.v0 = (fsvLoop n (init k)).1.v0 ∧
      sval 128 (fsvLoopW n (initW k)).1.v1 = (fsvLoop n (init k)).1.v1) := by
  obtain ⟨hs, hflag⟩ := loop_sim n (init_sim k) (inv_init k) (rinv_init hk)
  refine ⟨hflag, fun hf => ?_⟩
  have g := good_of_finished hk hf
  obtain ⟨a, b⟩ := g.short0
  obtain ⟨c, d⟩ := g.short1
  unfold B127 at a b c d
  rw [hs.v0, hs.v1]
  exact ⟨sval_wrap (by decide) (by omega) (by omega), sval_wrap (by decide) (by omega) (by omega)⟩

theorem fsvW_eq_fsv {k : Nat} (hk : k < 2 ^ 255) (hf : Finished k) : fsvW k = some (fsv k) := by
  obtain ⟨h1, h2⟩ := refines hk fuel
  unfold Finished fsvRun at hf
  obtain ⟨e0, e1⟩ := h2 hf
  unfold fsvW fsv fsvRun
  simp only [h1, hf, if_true, e0, e1]

/-- the cross-check `fsvW k = some (d0, d1)` of `Drv.handleL1` (reply `model-mismatch`) cannot fail -/
theorem no_model_mismatch {k : Nat} (hk : k < 2 ^ 255) {d0 d1 : Int} {it : Nat}
    (h : fsvChecked k = .ok d0 d1 it) : fsvW k = some (d0, d1) := by
  have hf := finished_of_lt (Nat.lt_trans hk (by decide))
  rw [fsvChecked_ok hk hf] at h
  obtain ⟨h0, h1, -⟩ := Outcome.ok.inj h
  rw [fsvW_eq_fsv hk hf, ← h0, ← h1]

example : fsvW (2 ^ 255 - 1) =
    some (84667582102274932455117783478168538729, 32608151360171445284720822772657597668) := by decide +kernel
example : (fsvLoopW fuel (initW kEx)).1.wide = false := by decide +kernel
example : fsvW kEx = some (fsv kEx) := fsvW_eq_fsv (by decide) finished_kEx

end Voi.Props.LatticeRefine

section Axioms
open Voi.Props.LatticeRefine
#print axioms sval_wrap
#print axioms addShifted_wrap
#print axioms loop_sim
#print axioms refines
#print axioms fsvW_eq_fsv
#print axioms no_model_mismatch
end Axioms

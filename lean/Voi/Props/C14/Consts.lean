/-
C14 — the constants of the Elligator model are the constants of the Go code.  `Voi.Model.H2C` writes the seven
constants of internal/elligator as numbers; `Voi.Props.C20.Field` proves that the limb literals of constants_u64.go /
constants_u32.go (`Voi.Gen.Consts_ElligatorU64/U32`, regenerated on every run) canonically encode the same numbers.
Core Lean only; depends on the regenerated `Voi/Gen` files (like C20), therefore NOT imported by `Voi/Props/C14.lean`.
-/
import Voi.Model.H2C
import Voi.Props.C20.Field
namespace Voi.Props.C14
open Voi Voi.Spec Voi.Model.H2C Voi.Gen.Consts Voi.Props.C20.Field

theorem elligator_consts_tied :
    Both ElligatorU64.constMONTGOMERY_A ElligatorU32.constMONTGOMERY_A constMONTGOMERY_A ∧
    Both ElligatorU64.constMONTGOMERY_NEG_A ElligatorU32.constMONTGOMERY_NEG_A constMONTGOMERY_NEG_A ∧
    Both ElligatorU64.constMONTGOMERY_A_SQUARED ElligatorU32.constMONTGOMERY_A_SQUARED constMONTGOMERY_A_SQUARED ∧
    Both ElligatorU64.constMONTGOMERY_SQRT_NEG_A_PLUS_TWO ElligatorU32.constMONTGOMERY_SQRT_NEG_A_PLUS_TWO
      constMONTGOMERY_SQRT_NEG_A_PLUS_TWO ∧
    Both ElligatorU64.constMONTGOMERY_U_FACTOR ElligatorU32.constMONTGOMERY_U_FACTOR constMONTGOMERY_U_FACTOR ∧
    Both ElligatorU64.constMONTGOMERY_V_FACTOR ElligatorU32.constMONTGOMERY_V_FACTOR constMONTGOMERY_V_FACTOR ∧
    Both ElligatorU64.constFieldZero ElligatorU32.constFieldZero constFieldZero := by
  have hU : Fp.neg (Fp.mul 2 Fp.sqrtM1) = constMONTGOMERY_U_FACTOR := by decide +kernel
  exact ⟨montgomery_a.1, montgomery_neg_a, montgomery_a_squared, montgomery_sqrt_neg_a_plus_two.1,
    hU ▸ montgomery_u_factor, montgomery_v_factor.1, C20.Field.elligator_zero⟩

end Voi.Props.C14

#print axioms Voi.Props.C14.elligator_consts_tied

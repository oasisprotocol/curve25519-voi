/-
C14 — the hash records of the library's XMD suites are well formed (`HashWF`): the executable SHA-512 / SHA-384 / SHA-256
of `Voi.Spec.Sha2` return exactly 64 / 48 / 32 bytes for every message, and the executable SHAKE128 / SHAKE256 of
`Voi.Spec.Keccak` return the requested number of bytes (`XofWF`).  This discharges the only hypothesis of
`xmd_model_eq_spec` / `xof_model_eq_spec` for these instances.  Every length is read off a fold: a step that keeps a size,
or one that adds a fixed amount.
-/
import Voi.Props.C14.Expand
namespace Voi.Props.C14
open Voi Voi.Spec Voi.Spec.H2C Voi.Model.H2C

theorem foldl_size {α γ : Type} (f : Array γ → α → Array γ) (k : Nat) (hf : ∀ b a, (f b a).size = k) :
    ∀ (l : List α) (init : Array γ), init.size = k → (l.foldl f init).size = k
  | [], _, h => h
  | a :: l, init, _ => foldl_size f k hf l (f init a) (hf init a)

theorem foldl_measure {α β : Type} (μ : β → Nat) (f : β → α → β) (k : Nat) (hf : ∀ b a, μ (f b a) = μ b + k) :
    ∀ (l : List α) (init : β), μ (l.foldl f init) = μ init + k * l.length
  | [], _ => rfl
  | a :: l, init => by rw [List.foldl_cons, foldl_measure μ f k hf l, hf, List.length_cons, Nat.mul_succ]; omega

theorem push_size {α : Type} (F : α → Nat → UInt8) (k : Nat) (a : Array α) (acc : ByteArray) :
    (a.foldl (fun b x => (List.range' 0 k).foldl (fun b j => b.push (F x j)) b) acc).size = acc.size + k * a.size := by
  rw [← Array.foldl_toList, foldl_measure ByteArray.size _ k (fun b a => by
    rw [foldl_measure ByteArray.size _ 1 (fun _ _ => ByteArray.size_push), List.length_range', Nat.one_mul]),
    Array.length_toList]

theorem sha512Rounds_size (w hs : Array UInt64) : ∀ (fuel t : Nat) (a b c d e f g h : UInt64),
    (sha512Rounds w hs fuel t a b c d e f g h).size = 8 := by
  intro fuel
  induction fuel with
  | zero => intros; rfl
  | succ n ih => intros; unfold sha512Rounds; exact ih ..

theorem sha512Core_size (iv : Array UInt64) (hiv : iv.size = 8) (m : Bytes) (n : Nat) (hn : n ≤ 64) :
    (sha512Core iv m n).size = n := by
  unfold sha512Core
  simp
  rw [push_size (fun a j => (a >>> (56 - 8 * UInt64.ofNat j)).toUInt8),
    foldl_size (fun b a => sha512Compress b _ (128 * a)) 8 (fun _ _ => sha512Rounds_size ..) _ _ hiv]
  show min n (0 + 8 * 8) = n
  omega

theorem sha512_size (m : Bytes) : (sha512 m).size = 64 := sha512Core_size _ rfl m 64 (by omega)
theorem sha384_size (m : Bytes) : (sha384 m).size = 48 := sha512Core_size _ rfl m 48 (by omega)

theorem sha256Rounds_size (w hs : Array UInt32) : ∀ (fuel t : Nat) (a b c d e f g h : UInt32),
    (sha256Rounds w hs fuel t a b c d e f g h).size = 8 := by
  intro fuel
  induction fuel with
  | zero => intros; rfl
  | succ n ih => intros; unfold sha256Rounds; exact ih ..

theorem sha256Core_size (iv : Array UInt32) (hiv : iv.size = 8) (m : Bytes) (n : Nat) (hn : n ≤ 32) :
    (sha256Core iv m n).size = n := by
  unfold sha256Core
  simp
  rw [push_size (fun a j => (a >>> (24 - 8 * UInt32.ofNat j)).toUInt8),
    foldl_size (fun b a => sha256Compress b _ (64 * a)) 8 (fun _ _ => sha256Rounds_size ..) _ _ hiv]
  show min n (0 + 4 * 8) = n
  omega

theorem sha256_size (m : Bytes) : (sha256 m).size = 32 := sha256Core_size _ rfl m 32 (by omega)

theorem hashWF_sha512 : HashWF hSha512 := ⟨sha512_size, by decide⟩
theorem hashWF_sha384 : HashWF hSha384 := ⟨sha384_size, by decide⟩
theorem hashWF_sha256 : HashWF hSha256 := ⟨sha256_size, by decide⟩

theorem keccakRounds_size : ∀ (fuel i : Nat)
    (a0 a1 a2 a3 a4 a5 a6 a7 a8 a9 a10 a11 a12 a13 a14 a15 a16 a17 a18 a19 a20 a21 a22 a23 a24 : UInt64),
    (keccakRounds fuel i a0 a1 a2 a3 a4 a5 a6 a7 a8 a9 a10 a11 a12 a13 a14 a15 a16 a17 a18 a19 a20 a21 a22
      a23 a24).size = 25 := by
  intro fuel
  induction fuel with
  | zero => intros; rfl
  | succ n ih => intros; unfold keccakRounds; exact ih ..

theorem keccakF1600_size (s : Array UInt64) : (keccakF1600 s).size = 25 := keccakRounds_size ..

theorem bytesOfLanes_size (a : Array UInt64) : (bytesOfLanes a).size = 8 * a.size := by
  unfold bytesOfLanes
  simp
  rw [push_size (fun a j => (a >>> (8 * UInt64.ofNat j)).toUInt8)]
  show 0 + 8 * a.size = 8 * a.size
  omega

theorem keccakSponge_size (rate : Nat) (hr0 : 0 < rate) (hr : rate ≤ 200) (ds : UInt8) (m : Bytes) (n : Nat) :
    (keccakSponge rate ds m n).size = n := by
  unfold keccakSponge
  simp
  -- squeezing: every iteration appends one block of `rate` bytes; absorbing keeps the 25 lanes
  rw [foldl_measure (fun b : Array UInt64 × ByteArray => b.snd.size) _ rate (fun b _ => by
      simp only [ByteArray.size_append, ByteArray.size_extract, bytesOfLanes_size, keccakF1600_size]; omega),
    List.length_range', ByteArray.size_extract, bytesOfLanes_size,
    foldl_size _ 25 (fun _ _ => keccakF1600_size _) _ _ (by simp)]
  -- the first block and ⌈n/rate⌉ − 1 further ones hold `n` bytes
  have := Nat.div_add_mod (n + rate - 1) rate
  have := Nat.mod_lt (n + rate - 1) hr0
  rw [Nat.mul_sub_one]
  omega

theorem xofWF_shake128 : XofWF shake128 := keccakSponge_size 168 (by omega) (by omega) _
theorem xofWF_shake256 : XofWF shake256 := keccakSponge_size 136 (by omega) (by omega) _

end Voi.Props.C14

/-
C14 — byte strings: the `Voi.Basic` functions of the RFC 9380 Spec in closed form (`natBE` = I2OSP, `bxor` = strxor,
`beNat` = OS2IP) and the Go building blocks of the model (`lit`, `byte`, `xorInto`, `goCopy`, `reversedByteSlice`).
-/
import Voi.Model.H2C
import Voi.Props.BytesMore
namespace Voi.Props.C14
open Voi Voi.Model.H2C Voi.Props.Bytes

theorem foldl_push (f : Nat → UInt8) (l : List Nat) : ∀ (acc : ByteArray),
    l.foldl (fun b a => b.push (f a)) acc = acc ++ (l.map f).toByteArray := by
  induction l with
  | nil => intro acc; simp
  | cons x l ih =>
    intro acc
    rw [List.foldl_cons, ih, List.map_cons]
    rw [← ByteArray.append_toByteArray_singleton, ByteArray.append_assoc, ← List.toByteArray_append]
    simp

theorem ofNat_mod (n : Nat) : UInt8.ofNat (n % 256) = UInt8.ofNat n := by
  apply UInt8.toNat_inj.1
  simp [UInt8.toNat_ofNat']

theorem natBE_eq (n len : Nat) : natBE n len =
    ((List.range' 0 len).map fun i => UInt8.ofNat (n >>> (8 * (len - 1 - i)) % 256)).toByteArray := by
  unfold natBE
  simp
  rw [foldl_push]
  show ByteArray.empty ++ _ = _
  simp

theorem natBE_size (n len : Nat) : (natBE n len).size = len := by
  rw [natBE_eq]; simp

theorem natBE_one (n : Nat) : natBE n 1 = lit [byte n] := by
  rw [natBE_eq]
  simp [lit, byte, ofNat_mod]

theorem natBE_two (n : Nat) : natBE n 2 = lit [byte (n >>> 8), byte n] := by
  rw [natBE_eq]
  simp [lit, byte, ofNat_mod, List.range']

theorem bzero_eq (n : Nat) : bzero n = (List.replicate n (0 : UInt8)).toByteArray := by
  unfold bzero
  apply ByteArray.ext
  simp

theorem natBE_zero (r : Nat) : natBE 0 r = bzero r := by
  rw [natBE_eq, bzero_eq]
  simp [List.map_const']

theorem lit_append (l l' : List UInt8) : lit l ++ lit l' = lit (l ++ l') := by
  unfold lit; rw [List.toByteArray_append]

theorem lit_size (l : List UInt8) : (lit l).size = l.length := by
  unfold lit; simp

theorem bxor_eq (a b : Bytes) : bxor a b =
    ((List.range' 0 a.size).map fun i => a.get! i ^^^ b.get! i).toByteArray := by
  unfold bxor
  simp
  rw [foldl_push]
  show ByteArray.empty ++ _ = _
  simp

theorem bxor_size (a b : Bytes) : (bxor a b).size = a.size := by
  rw [bxor_eq]; simp

theorem bxor_getElem (a b : Bytes) (i : Nat) (h : i < (bxor a b).size) :
    (bxor a b)[i] = a[i]! ^^^ b[i]! := by
  simp only [bxor_eq, List.getElem_toByteArray, List.getElem_map, List.getElem_range', get!_eq]
  simp

theorem xorInto_aux (b0 : Bytes) (k : Nat) : ∀ (x : Bytes), k ≤ x.size →
    let r := (List.range k).foldl (fun buf i => buf.set! i (buf.get! i ^^^ b0.get! i)) x
    r.size = x.size ∧ ∀ j, r[j]! = if j < k then x[j]! ^^^ b0[j]! else x[j]! := by
  induction k with
  | zero => intro x _; simp
  | succ k ih =>
    intro x hk
    obtain ⟨hs, hg⟩ := ih x (by omega)
    simp only [List.range_succ, List.foldl_append, List.foldl_cons, List.foldl_nil]
    generalize (List.range k).foldl (fun buf i => buf.set! i (buf.get! i ^^^ b0.get! i)) x = r at hs hg
    refine ⟨by rw [ByteArray.size_set!, hs], ?_⟩
    intro j
    rw [ByteArray.getElem!_set! _ _ _ _ (by omega), get!_eq, get!_eq, hg k]
    by_cases hj : k = j
    · subst hj; simp
    · rw [if_neg hj, hg j]
      by_cases hlt : j < k
      · rw [if_pos hlt, if_pos (by omega)]
      · rw [if_neg hlt, if_neg (by omega)]

/-- `for i, v := range b0 { xorBuf[i] ^= v }` is strxor(b_0, xorBuf) for equal lengths -/
theorem xorInto_eq (x b0 : Bytes) (h : x.size = b0.size) : xorInto x b0 = bxor b0 x := by
  have hs : (xorInto x b0).size = x.size := (xorInto_aux b0 b0.size x (by omega)).1
  have hg : ∀ j, (xorInto x b0)[j]! = if j < b0.size then x[j]! ^^^ b0[j]! else x[j]! :=
    (xorInto_aux b0 b0.size x (by omega)).2
  apply ByteArray.ext_getElem
  · rw [hs, bxor_size, h]
  · intro i hi hi'
    rw [bxor_getElem, ← getElem!_pos _ i hi, hg i]
    have hlt : i < b0.size := by rw [bxor_size] at hi'; exact hi'
    rw [if_pos hlt, UInt8.xor_comm]

theorem extract_full (b : Bytes) (n : Nat) (h : b.size ≤ n) : b.extract 0 n = b := by
  have : n = max n b.size := by omega
  rw [this, ByteArray.extract_zero_max_size]

theorem goCopy_eq (dst : Bytes) (off : Nat) (src : Bytes) :
    goCopy dst off src = dst.extract 0 off ++ src.extract 0 (min (dst.size - off) src.size) ++
      dst.extract (off + min (dst.size - off) src.size) dst.size := by
  unfold goCopy
  rw [ByteArray.copySlice_eq_append]
  simp only [Nat.zero_add, Nat.sub_zero, ← ByteArray.size_data]
  congr 2
  rw [Nat.min_eq_left (Nat.min_le_right _ _)]

theorem goCopy_size (dst : Bytes) (off : Nat) (src : Bytes) : (goCopy dst off src).size = dst.size := by
  rw [goCopy_eq]
  simp only [ByteArray.size_append, ByteArray.size_extract]
  omega

theorem goCopy_fits (dst : Bytes) (off : Nat) (src : Bytes) (h : off + src.size ≤ dst.size) :
    goCopy dst off src = dst.extract 0 off ++ src ++ dst.extract (off + src.size) dst.size := by
  rw [goCopy_eq]
  have h1 : min (dst.size - off) src.size = src.size := by omega
  rw [h1, ByteArray.extract_zero_size]

theorem goCopy_whole (dst src : Bytes) (h : src.size = dst.size) : goCopy dst 0 src = src := by
  rw [goCopy_fits dst 0 src (by omega), ByteArray.extract_same, ByteArray.empty_append, Nat.zero_add, h,
    ByteArray.extract_same, ByteArray.append_empty]

/-- `io.ReadFull` into a buffer of `n` bytes from a stream of `n` bytes -/
theorem goCopy_all (dst src : Bytes) {n : Nat} (hd : dst.size = n) (hs : src.size = n) :
    goCopy dst 0 (src.extract 0 n) = src := by
  rw [extract_full src n (by omega), goCopy_whole dst src (by omega)]

theorem goCopy_prefix (dst : Bytes) (off : Nat) (src : Bytes) {t : Nat} (h : off + t ≤ dst.size) (ht : src.size = t) :
    (goCopy dst off src).extract 0 (off + t) = dst.extract 0 off ++ src := by
  subst ht
  rw [goCopy_fits dst off src h]
  apply ByteArray.extract_append_eq_left
  rw [ByteArray.size_append, ByteArray.size_extract]; omega

theorem extract_empty_of_ge (b : Bytes) (i j : Nat) (h : b.size ≤ i) : b.extract i j = ByteArray.empty := by
  rw [ByteArray.extract_eq_empty_iff]; omega

theorem extract_min_size (b : Bytes) (i j : Nat) : b.extract i (min j b.size) = b.extract i j := by
  have h := @ByteArray.extract_extract b 0 b.size i j
  rwa [ByteArray.extract_zero_size, Nat.zero_add, Nat.zero_add, eq_comm] at h

theorem extract_append_min (a c : Bytes) {w t : Nat} (ht : min w a.size = t) :
    (a ++ c).extract 0 w = a.extract 0 t ++ c.extract 0 (w - t) := by
  rw [ByteArray.extract_append, Nat.zero_sub, ← ht, extract_min_size]
  congr 2; omega

theorem bzero_extract (n i j : Nat) (h : j ≤ n) : (bzero n).extract i j = bzero (j - i) := by
  apply ByteArray.ext
  simp [bzero, Array.extract_replicate]
  omega

theorem reversedByteSlice_size (b : Bytes) : (reversedByteSlice b).size = b.size := by
  unfold reversedByteSlice; simp

theorem leList_eq_foldl_reverse (l : List UInt8) :
    leList l = l.reverse.foldl (fun acc x => acc <<< 8 + x.toNat) 0 := by
  induction l with
  | nil => rfl
  | cons x l ih =>
    rw [List.reverse_cons, List.foldl_append, ← ih, leList, List.foldl_cons, List.foldl_nil, Nat.shiftLeft_eq]
    omega

theorem leNat_reversed (b : Bytes) : leNat (reversedByteSlice b) = beNat b := by
  unfold reversedByteSlice beNat
  rw [leNat_eq, leList_eq_foldl_reverse, foldl_eq_list]
  simp

end Voi.Props.C14

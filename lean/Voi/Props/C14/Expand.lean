/-
C14 — message expansion: the code-shaped models `Voi.Model.H2C.expandMessageXMD` / `expandMessageXOF` (transcriptions of
expand_message.go, tied to the Go code by stream H3) equal RFC 9380 §5.3.1 / §5.3.2 / §5.3.3
(`Voi.Spec.H2C.expandMessageXmd` / `expandMessageXof`) for every hash record, DST, message, requested length and initial
contents of the output buffer, and for every state of the XOF instance handed in.

Hypotheses, all about the hash/XOF record (none about the inputs):
 * `HashWF h`:  `H` returns `b` bytes (`Size()` is the digest length) and `b ≤ 255` (only used for DSTs longer than 255
   bytes: the digest replaces the DST and its length goes into one byte);
 * `XofWF X`:   `X m n` returns `n` bytes.
-/
import Voi.Props.C14.Bytes
namespace Voi.Props.C14
open Voi Voi.Spec Voi.Spec.H2C Voi.Model.H2C

structure HashWF (h : HashFn) : Prop where
  size : ∀ m, (h.H m).size = h.b
  b_le : h.b ≤ 255

def XofWF (X : XofFn) : Prop := ∀ m n, (X m n).size = n

theorem xmdBlocks_acc (h : HashFn) (b0 dp : Bytes) : ∀ (todo i : Nat) (prev acc : Bytes),
    xmdBlocks h b0 dp todo i prev acc = acc ++ xmdBlocks h b0 dp todo i prev ByteArray.empty := by
  intro todo
  induction todo with
  | zero => intro i prev acc; simp [xmdBlocks]
  | succ todo ih =>
    intro i prev acc
    simp only [xmdBlocks]
    rw [ih _ _ (acc ++ _), ih _ _ (ByteArray.empty ++ _), ByteArray.empty_append, ByteArray.append_assoc]

theorem xmdBlocks_succ (h : HashFn) (b0 dp : Bytes) (todo i : Nat) (prev : Bytes) :
    xmdBlocks h b0 dp (todo + 1) i prev ByteArray.empty =
      h.H (bxor b0 prev ++ i2osp i 1 ++ dp) ++
        xmdBlocks h b0 dp todo (i + 1) (h.H (bxor b0 prev ++ i2osp i 1 ++ dp)) ByteArray.empty := by
  simp only [xmdBlocks]
  rw [xmdBlocks_acc, ByteArray.empty_append]

theorem xmdBlocks_size (h : HashFn) (hH : ∀ m, (h.H m).size = h.b) (b0 dp : Bytes) :
    ∀ (todo i : Nat) (prev acc : Bytes),
    (xmdBlocks h b0 dp todo i prev acc).size = acc.size + todo * h.b := by
  intro todo
  induction todo with
  | zero => intro i prev acc; simp [xmdBlocks]
  | succ todo ih =>
    intro i prev acc
    simp only [xmdBlocks]
    rw [ih, ByteArray.size_append, hH, Nat.succ_mul]; omega

/-- one more block: `⌈w/b⌉ = ⌈(w − min(w, b))/b⌉ + 1` for `w > 0` -/
theorem ceil_pred {w b : Nat} (hb : 0 < b) (hw : 0 < w) : (w + b - 1) / b = (w - min w b + b - 1) / b + 1 := by
  rw [← Nat.add_div_right _ hb]
  rcases Nat.le_total w b with h | h
  · rw [Nat.min_eq_left h, Nat.sub_self, Nat.div_eq_of_lt_le (k := 1) (by omega) (by omega),
      Nat.div_eq_of_lt_le (k := 1) (by omega) (by omega)]
  · rw [Nat.min_eq_right h]; congr 1; omega

theorem xmdLoop_size (b0 DST : Bytes) (lenDST bIn : Nat) : ∀ (fuel : Nat) (h : Hasher) (i wanted : Nat)
    (xorBuf out : Bytes) (outOff : Nat),
    (xmdLoop b0 DST lenDST bIn fuel h i wanted xorBuf out outOff).size = out.size := by
  intro fuel
  induction fuel with
  | zero => intros; rfl
  | succ fuel ih =>
    intro h i wanted xorBuf out outOff
    unfold xmdLoop
    split
    · rfl
    · simp only []
      rw [ih, goCopy_size]

theorem xmdLoop_done (b0 DST : Bytes) (lenDST bIn fuel : Nat) (h : Hasher) (i : Nat) (xorBuf out : Bytes)
    (outOff : Nat) : xmdLoop b0 DST lenDST bIn fuel h i 0 xorBuf out outOff = out := by
  cases fuel <;> simp [xmdLoop]

/-- Loop invariant: started with `xorBuf = b_(i-1)`, `outOff + wanted = len(out)`, the loop leaves `out[:outOff]` alone
and fills the rest with the first `wanted` bytes of `b_i ‖ b_(i+1) ‖ …` of RFC 9380 §5.3.1 steps 9–11. -/
theorem xmdLoop_eq (hf : HashFn) (hH : ∀ m, (hf.H m).size = hf.b) (hb : 0 < hf.b)
    (b0 DST : Bytes) (lenDST : Nat) (hb0 : b0.size = hf.b) :
    ∀ (fuel : Nat) (h : Hasher) (i wanted : Nat) (prev out : Bytes) (outOff : Nat),
      h.fn = hf → wanted ≤ fuel → prev.size = hf.b → outOff + wanted = out.size →
      xmdLoop b0 DST lenDST hf.b fuel h i wanted prev out outOff =
        out.extract 0 outOff ++
          (xmdBlocks hf b0 (DST ++ lit [byte lenDST]) ((wanted + hf.b - 1) / hf.b) i prev
            ByteArray.empty).extract 0 wanted := by
  have done : ∀ (out X : Bytes) (outOff : Nat), outOff + 0 = out.size →
      out = out.extract 0 outOff ++ X.extract 0 0 := by
    intro out X outOff ho
    obtain rfl : outOff = out.size := ho
    rw [ByteArray.extract_same, ByteArray.append_empty, ByteArray.extract_zero_size]
  intro fuel
  induction fuel with
  | zero =>
    intro h i wanted prev out outOff _ hw _ ho
    obtain rfl : wanted = 0 := by omega
    exact done out _ outOff ho
  | succ fuel ih =>
    intro h i wanted prev out outOff hfn hw hp ho
    rcases Nat.eq_zero_or_pos wanted with rfl | hpos
    · rw [xmdLoop_done]; exact done out _ outOff ho
    unfold xmdLoop
    rw [if_neg (by omega)]
    simp only [Hasher.reset, Hasher.write, Hasher.sum, hfn, ByteArray.empty_append]
    rw [xorInto_eq prev b0 (by rw [hp, hb0]), ← natBE_one i, ByteArray.append_assoc (b := DST)]
    rw [ceil_pred hb hpos, xmdBlocks_succ]
    unfold i2osp
    -- the block b_i, of which `min(wanted, b)` bytes are copied: a full block, or the last, partial one
    generalize hbi : hf.H (bxor b0 prev ++ natBE i 1 ++ (DST ++ lit [byte lenDST])) = bi
    have hbis : bi.size = hf.b := hbi ▸ hH _
    have ht : (if wanted > hf.b then hf.b else wanted) = min wanted hf.b := by split <;> omega
    have hcs : (bi.extract 0 (min wanted hf.b)).size = min wanted hf.b := by rw [ByteArray.size_extract]; omega
    rw [ht, ih _ _ _ _ _ _ rfl (by omega) hbis (by rw [goCopy_size]; omega), goCopy_prefix _ _ _ (by omega) hcs,
      extract_append_min bi _ (congrArg _ hbis), ByteArray.append_assoc]

theorem guard_congr {α : Type} {c c' : Prop} [Decidable c] [Decidable c'] {x y : Option α} (hc : c ↔ c')
    (h : ¬ c' → x = y) : (if c then none else x) = if c' then none else y :=
  ite_congr (propext hc) (fun _ => rfl) h

/-- `ExpandMessageXMD` with the hash object's bookkeeping (`Write`/`Sum`/`Reset`) evaluated: what is hashed, in which
order the checks come. -/
theorem expandMessageXMD_unfold (out : Bytes) (hf : HashFn) (dst msg : Bytes) :
    expandMessageXMD out hf dst msg =
      if hf.b < 32 then none else
      if out.size = 0 ∨ out.size > 65535 then none else
      let DST := xmdDst hf dst
      if (out.size + hf.b - 1) / hf.b > 255 then none else
      let dp := DST ++ lit [byte DST.size]
      let b0 := hf.H (bzero hf.s ++ msg ++ lit [byte (out.size >>> 8), byte out.size, 0] ++ dp)
      let b1 := hf.H (b0 ++ lit [1] ++ dp)
      if out.size ≤ hf.b then some (goCopy out 0 (b1.extract 0 out.size)) else
      some (xmdLoop b0 DST DST.size hf.b (out.size - hf.b)
        ⟨hf, b0 ++ lit [1] ++ DST ++ lit [byte DST.size]⟩ 2 (out.size - hf.b) b1 (goCopy out 0 b1) b1.size) := by
  unfold expandMessageXMD xmdDst
  -- the hash object, the DST and its length come out of one `if` as a triple
  by_cases hd : dst.size > 255 <;>
    simp only [Hasher.new, Hasher.blockSize, Hasher.write, Hasher.sum, Hasher.reset, kay, maxUint16, maxUint8,
      ByteArray.empty_append, ByteArray.append_assoc, hd, if_true, if_false, Nat.reduceMul, Nat.reduceDiv] <;> rfl

theorem xmd_cases (out : Bytes) (hf : HashFn) (dst msg : Bytes) :
    (expandMessageXMD out hf dst msg = none ∧
      (hf.b < 32 ∨ out.size = 0 ∨ out.size > 65535 ∨ (out.size + hf.b - 1) / hf.b > 255)) ∨
    (∃ o, expandMessageXMD out hf dst msg = some o ∧ o.size = out.size ∧
      ¬ (hf.b < 32 ∨ out.size = 0 ∨ out.size > 65535 ∨ (out.size + hf.b - 1) / hf.b > 255)) := by
  rw [expandMessageXMD_unfold]
  by_cases h1 : hf.b < 32
  · exact .inl ⟨if_pos h1, .inl h1⟩
  rw [if_neg h1]
  by_cases h2 : out.size = 0 ∨ out.size > 65535
  · exact .inl ⟨if_pos h2, .inr (h2.imp_right .inl)⟩
  rw [if_neg h2]
  simp only []
  by_cases h3 : (out.size + hf.b - 1) / hf.b > 255
  · exact .inl ⟨if_pos h3, .inr (.inr (.inr h3))⟩
  rw [if_neg h3]
  have hna : ¬ (hf.b < 32 ∨ out.size = 0 ∨ out.size > 65535 ∨ (out.size + hf.b - 1) / hf.b > 255) := by
    rintro (h | h | h | h)
    · exact h1 h
    · exact h2 (.inl h)
    · exact h2 (.inr h)
    · exact h3 h
  split
  · exact .inr ⟨_, rfl, goCopy_size .., hna⟩
  · exact .inr ⟨_, rfl, by rw [xmdLoop_size, goCopy_size], hna⟩

/-- C14, length: whenever `ExpandMessageXMD` succeeds the output buffer has kept its length (`len_in_bytes` = `len(out)`). -/
theorem xmd_length (out : Bytes) (hf : HashFn) (dst msg : Bytes) {o : Bytes}
    (h : expandMessageXMD out hf dst msg = some o) : o.size = out.size := by
  rcases xmd_cases out hf dst msg with ⟨hn, -⟩ | ⟨o', ho, hs, -⟩
  · rw [hn] at h; cases h
  · rw [ho] at h; cases h; exact hs

/-- C14, abort conditions: `ExpandMessageXMD` returns an error exactly when the digest is shorter than 2k = 256 bits, or
the requested length is 0 or above 65535, or more than 255 blocks would be needed; no DST and no message makes it fail. -/
theorem xmd_abort_iff (out : Bytes) (hf : HashFn) (dst msg : Bytes) :
    expandMessageXMD out hf dst msg = none ↔
      hf.b < 32 ∨ out.size = 0 ∨ out.size > 65535 ∨ (out.size + hf.b - 1) / hf.b > 255 := by
  rcases xmd_cases out hf dst msg with ⟨hn, ha⟩ | ⟨o, ho, -, hna⟩
  · exact iff_of_true hn ha
  · exact iff_of_false (by rw [ho]; nofun) hna

theorem xmdDst_size {hf : HashFn} (hwf : HashWF hf) (dst : Bytes) : (xmdDst hf dst).size ≤ 255 := by
  unfold xmdDst
  split
  · rw [hwf.size]; exact hwf.b_le
  · omega

/-- C14: model = RFC 9380 §5.3.1 (+ §5.3.3) for every well-formed hash record, every DST (any length), message and output
buffer (any length, any previous contents). -/
theorem xmd_model_eq_spec (hf : HashFn) (hwf : HashWF hf) (out dst msg : Bytes) :
    expandMessageXMD out hf dst msg = expandMessageXmd hf 128 msg dst out.size := by
  rw [expandMessageXMD_unfold]
  unfold expandMessageXmd
  refine guard_congr .rfl fun h1 => guard_congr .rfl fun h2 => ?_
  have hDs := xmdDst_size hwf dst
  generalize xmdDst hf dst = DST at hDs
  refine guard_congr ⟨.inl, fun h => h.resolve_right (by omega)⟩ fun h3 => ?_
  have hdp : DST ++ lit [byte DST.size] = dstPrime DST := by
    unfold dstPrime i2osp; rw [natBE_one]
  have hmsg : bzero hf.s ++ msg ++ lit [byte (out.size >>> 8), byte out.size, 0] ++ dstPrime DST =
      i2osp 0 hf.s ++ msg ++ i2osp out.size 2 ++ i2osp 0 1 ++ dstPrime DST := by
    unfold i2osp
    rw [natBE_zero, natBE_two, natBE_one, ByteArray.append_assoc (b := lit _) (c := lit _), lit_append]
    rfl
  have hone : lit [1] = i2osp 1 1 := by unfold i2osp; rw [natBE_one]; rfl
  simp only [hdp, hmsg, hone]
  generalize hb0 : hf.H (i2osp 0 hf.s ++ msg ++ i2osp out.size 2 ++ i2osp 0 1 ++ dstPrime DST) = b0
  have hb0s : b0.size = hf.b := hb0 ▸ hwf.size _
  generalize hb1 : hf.H (b0 ++ i2osp 1 1 ++ dstPrime DST) = b1
  have hb1s : b1.size = hf.b := hb1 ▸ hwf.size _
  -- b_1 ‖ b_2 ‖ …, of which `min(len, b)` bytes come from b_1
  unfold bslice
  rw [Nat.zero_add, ceil_pred (w := out.size) (by omega) (by omega), Nat.add_sub_cancel, xmdBlocks_acc,
    extract_append_min b1 _ (congrArg _ hb1s)]
  split
  next h4 => -- served from b_1 alone
    rw [Nat.min_eq_left h4, Nat.sub_self, ByteArray.extract_same, ByteArray.append_empty,
      goCopy_whole out _ (by rw [ByteArray.size_extract, hb1s]; omega)]
  next h4 => -- the state before the loop: out = b_1 ‖ (old contents), outOff = b
    rw [Nat.min_eq_right (by omega), ← hdp,
      xmdLoop_eq hf hwf.size (by omega) b0 DST DST.size hb0s _ _ _ _ _ _ _ rfl (Nat.le_refl _) hb1s
        (by rw [goCopy_size]; omega),
      ← Nat.zero_add b1.size, goCopy_prefix out 0 b1 (by omega) rfl, ByteArray.extract_same, ByteArray.empty_append,
      extract_full b1 hf.b (by omega)]

/-- C14, oversize DST (§5.3.3): a DST longer than 255 bytes is used as `H("H2C-OVERSIZE-DST-" ‖ DST)`; the call is the
same as the call with that digest as the DST. -/
theorem xmd_oversize_dst (hf : HashFn) (hwf : HashWF hf) (out dst msg : Bytes) (hd : dst.size > 255) :
    expandMessageXMD out hf dst msg = expandMessageXMD out hf (hf.H (oversizeDST ++ dst)) msg := by
  have h : xmdDst hf (hf.H (oversizeDST ++ dst)) = xmdDst hf dst := by
    unfold xmdDst
    rw [if_pos hd, if_neg (by rw [hwf.size]; have := hwf.b_le; omega)]; rfl
  rw [expandMessageXMD_unfold, expandMessageXMD_unfold, h]

theorem xmd_spec_oversize_dst (hf : HashFn) (hwf : HashWF hf) (dst msg : Bytes) (len : Nat) (hd : dst.size > 255) :
    expandMessageXmd hf 128 msg dst len = expandMessageXmd hf 128 msg (hf.H (strBytes "H2C-OVERSIZE-DST-" ++ dst)) len := by
  have e := xmd_oversize_dst hf hwf (bzero len) dst msg hd
  rw [xmd_model_eq_spec hf hwf, xmd_model_eq_spec hf hwf, Bytes.bzero_size] at e
  exact e

/-- `ExpandMessageXOF` with the XOF objects' bookkeeping (`Clone`/`Reset`/`Write`/`Read`) evaluated.  Only `x.fn` is
left: the state of the instance handed in is discarded. -/
theorem expandMessageXOF_unfold (out : Bytes) (x : Xof) (dst msg : Bytes) :
    expandMessageXOF out x dst msg =
      if out.size = 0 ∨ out.size > 65535 then none else
      let DST := if dst.size > 255 then goCopy (bzero 32) 0 ((x.fn (oversizeDST ++ dst) 32).extract 0 32) else dst
      some (goCopy out 0 ((x.fn (msg ++ lit [byte (out.size >>> 8), byte out.size] ++ DST ++ lit [byte DST.size])
        out.size).extract 0 out.size)) := by
  unfold expandMessageXOF
  by_cases hd : dst.size > 255 <;>
    simp only [newXOF, Xof.clone, Xof.reset, Xof.write, Xof.readFull, kay, maxUint16, maxUint8, Bytes.bzero_size,
      ByteArray.empty_append, Nat.zero_add, hd, if_true, if_false, Nat.reduceMul, Nat.reduceDiv]

theorem xof_length (out : Bytes) (x : Xof) (dst msg : Bytes) {o : Bytes}
    (h : expandMessageXOF out x dst msg = some o) : o.size = out.size := by
  rw [expandMessageXOF_unfold] at h
  split at h
  · cases h
  · injection h with h; rw [← h, goCopy_size]

theorem xof_abort_iff (out : Bytes) (x : Xof) (dst msg : Bytes) :
    expandMessageXOF out x dst msg = none ↔ out.size = 0 ∨ out.size > 65535 := by
  rw [expandMessageXOF_unfold]
  split
  · exact iff_of_true rfl ‹_›
  · exact iff_of_false nofun ‹_›

/-- C14: model = RFC 9380 §5.3.2 (+ §5.3.3) for every XOF returning the requested number of bytes, every state of the
instance handed in, every DST, message and output buffer. -/
theorem xof_model_eq_spec (x : Xof) (hwf : XofWF x.fn) (out dst msg : Bytes) :
    expandMessageXOF out x dst msg = expandMessageXof x.fn 128 msg dst out.size := by
  rw [expandMessageXOF_unfold]
  unfold expandMessageXof
  refine guard_congr .rfl fun h2 => ?_
  have hD : (if dst.size > 255 then goCopy (bzero 32) 0 ((x.fn (oversizeDST ++ dst) 32).extract 0 32) else dst)
      = xofDst x.fn 128 dst := by
    unfold xofDst
    split
    · exact goCopy_all _ _ (Bytes.bzero_size 32) (hwf _ _)
    · rfl
  have hDs : (xofDst x.fn 128 dst).size ≤ 255 := by
    unfold xofDst
    split
    · rw [hwf]; decide
    · omega
  simp only [hD]
  generalize xofDst x.fn 128 dst = DST at hDs
  rw [if_neg (by omega), goCopy_all out _ rfl (hwf _ _)]
  unfold dstPrime i2osp
  rw [natBE_two, natBE_one, ByteArray.append_assoc (a := msg ++ lit _)]

theorem xof_state_irrelevant (x y : Xof) (h : x.fn = y.fn) (out dst msg : Bytes) :
    expandMessageXOF out x dst msg = expandMessageXOF out y dst msg := by
  rw [expandMessageXOF_unfold, expandMessageXOF_unfold, h]

/-- §5.3.3 for the XOF expander: a DST longer than 255 bytes is used as `X("H2C-OVERSIZE-DST-" ‖ DST, 32)`. -/
theorem xof_oversize_dst (x : Xof) (hwf : XofWF x.fn) (out dst msg : Bytes) (hd : dst.size > 255) :
    expandMessageXOF out x dst msg = expandMessageXOF out x (x.fn (oversizeDST ++ dst) 32) msg := by
  rw [expandMessageXOF_unfold, expandMessageXOF_unfold, if_pos hd,
    if_neg (c := (x.fn (oversizeDST ++ dst) 32).size > 255) (by rw [hwf]; decide),
    goCopy_all _ _ (Bytes.bzero_size 32) (hwf _ _)]

theorem xmd_out_irrelevant (hf : HashFn) (hwf : HashWF hf) (out out' dst msg : Bytes) (h : out.size = out'.size) :
    expandMessageXMD out hf dst msg = expandMessageXMD out' hf dst msg := by
  rw [xmd_model_eq_spec hf hwf, xmd_model_eq_spec hf hwf, h]

theorem xof_out_irrelevant (x : Xof) (hwf : XofWF x.fn) (out out' dst msg : Bytes) (h : out.size = out'.size) :
    expandMessageXOF out x dst msg = expandMessageXOF out' x dst msg := by
  rw [xof_model_eq_spec x hwf, xof_model_eq_spec x hwf, h]

end Voi.Props.C14

/-
C14 — Elligator 2.  The straight-line code of internal/elligator/elligator2.go (model: `Voi.Model.H2C.montgomeryFlavor`,
`edwardsFlavor`, `setEdwardsFromXY`; tied to the Go code by stream H3, and `montgomeryFlavor` as regenerated proved equal
to the model in `FL/Elligator.montgomeryFlavor_eq`) computes, for every field element, exactly the map of RFC 9380 §6.7.1
(`map_to_curve_elligator2` on curve25519, Z = 2, with `sgn0`, `inv0`, `is_square`, `sqrt`) followed by the rational map of
§6.8.2 / Appendix D.1 with its exceptional cases (`Voi.Spec.H2C.mapToCurveElligator2`, `mapToCurve`).
-/
import Mathlib.NumberTheory.LegendreSymbol.Basic
import Voi.Proofs.SqrtRatio
import Voi.Proofs.SpecBridge
import Voi.Props.C10
import Voi.Model.H2C
namespace Voi.Props.C14
open Voi Voi.Spec Voi.Spec.H2C Voi.Model.H2C
open Voi.Proofs.SqrtRatio
open Voi.Props.C07 hiding toZ
/-- Mathlib has a root-level `toZ` (order theory); here `toZ` always means the cast ℕ → ZMod p -/
local notation "toZ" => Voi.Props.C07.toZ

noncomputable abbrev A : ZMod p := 486662

theorem cA_eq : constMONTGOMERY_A = J := rfl
theorem cNegA_eq : constMONTGOMERY_NEG_A = Fp.neg J := by decide +kernel
theorem cASq_eq : constMONTGOMERY_A_SQUARED = J * J := rfl
theorem cSqrt_eq : constMONTGOMERY_SQRT_NEG_A_PLUS_TWO = sqrtNeg486664 := by decide +kernel
theorem cSqrt_sq : Fp.sq constMONTGOMERY_SQRT_NEG_A_PLUS_TWO = Fp.neg 486664 := by decide +kernel
theorem cSqrt_lt : constMONTGOMERY_SQRT_NEG_A_PLUS_TWO < p := by decide +kernel
theorem cU_eq : constMONTGOMERY_U_FACTOR = Fp.neg (Fp.mul 2 Fp.sqrtM1) := by decide +kernel
theorem cV_sq : Fp.sq constMONTGOMERY_V_FACTOR = constMONTGOMERY_U_FACTOR := by decide +kernel

@[fp] theorem toZ_J : toZ J = A := toZ_ofNat 486662
@[fp] theorem toZ_Z : toZ Z = 2 := toZ_ofNat 2
@[fp] theorem toZ_cA : toZ constMONTGOMERY_A = A := toZ_J
@[fp] theorem toZ_cNegA : toZ constMONTGOMERY_NEG_A = -A := by rw [cNegA_eq, toZ_neg, toZ_J]
@[fp] theorem toZ_cASq : toZ constMONTGOMERY_A_SQUARED = A * A := by
  rw [cASq_eq]; exact (Nat.cast_mul J J).trans (congrArg₂ _ toZ_J toZ_J)
@[fp] theorem toZ_cU : toZ constMONTGOMERY_U_FACTOR = -(2 * I) := by
  rw [cU_eq, toZ_neg, toZ_mul, toZ_ofNat, I]
theorem toZ_cV_sq : toZ constMONTGOMERY_V_FACTOR * toZ constMONTGOMERY_V_FACTOR = -(2 * I) := by
  rw [← toZ_sq, cV_sq, toZ_cU]
theorem toZ_cSqrt_sq : toZ constMONTGOMERY_SQRT_NEG_A_PLUS_TWO ^ 2 = -486664 := by
  rw [pow_two, ← toZ_sq, cSqrt_sq, toZ_neg, toZ_ofNat]

/-- p ≡ 5 mod 8; `2^((p−1)/2) = −1` is computed by the kernel -/
theorem two_nonsquare : ¬ IsSquare (2 : ZMod p) :=
  toZ_ofNat 2 ▸ not_isSquare_of_pow_half (a := 2) (by decide +kernel)

theorem A_ne_zero : A ≠ 0 := ofNat_ne_zero 486662 (by decide)

/-- The exceptional case of RFC 9380 §6.7.1 is empty: `1 + Z·r² = 1 + 2r²` never vanishes, because −1/2 is not a square
(−1 is, 2 is not). -/
theorem one_add_two_sq_ne_zero (r : ZMod p) : 1 + 2 * r ^ 2 ≠ 0 := by
  rw [add_comm]; exact mul_sq_add_one_ne_zero two_nonsquare r

/-- the numerator of g(x1); 2 is not a square -/
theorem num_ne_zero (r : ZMod p) : 2 * (A * A) * r ^ 2 - (1 + 2 * r ^ 2) ^ 2 ≠ 0 := by
  intro h
  have hr := eq_zero_of_mul_sq_eq_sq (a := A * r) (b := 1 + 2 * r ^ 2) two_nonsquare (by linear_combination h)
  rcases mul_eq_zero.1 hr with h0 | h0
  · exact A_ne_zero h0
  · rw [h0] at h
    exact one_ne_zero (by linear_combination -h)

/-- the Spec's `is_square` is Euler's criterion computed by `Fp.pow` -/
theorem isSquare_iff (x : Nat) : isSquare x = true ↔ IsSquare (toZ x) := by
  unfold isSquare
  simp only [Bool.or_eq_true]
  have hl := pow_lt x ((p - 1) / 2)
  have hz : toZ (Fp.pow x ((p - 1) / 2)) = toZ x ^ ((p - 1) / 2) := toZ_pow _ _ (by decide +kernel)
  have he : (p - 1) / 2 = p / 2 := by decide +kernel
  rw [beq_iff_toZ hl (by decide : 0 < p), beq_iff_toZ hl (by decide : 1 < p), hz, toZ_zero, toZ_one, he]
  by_cases h0 : toZ x = 0
  · rw [h0]
    exact iff_of_true (.inl (zero_pow (by decide +kernel))) ⟨0, (mul_zero 0).symm⟩
  · rw [ZMod.euler_criterion p h0, or_iff_right fun h => h0 ((pow_eq_zero_iff (by decide +kernel)).1 h)]

/-! Elligator 2 on curve25519 in `ZMod p`; the `linear_combination` certificates come from a Gröbner reduction.
`w = 1 + 2r²`, `N = A(2A²r² − w²)` (the code's numerator `t3`), `x1 = −A/w`, `x2 = −x1 − A`,
`g(x) = x³ + Ax² + x`.  Then `w³ g(x1) = N` and `w³ g(x2) = 2r² N`. -/
section Algebra
variable {r w N s x1 : ZMod p}

theorem G1 (hw : w = 1 + 2 * r ^ 2) (hN : N = (A * A * (2 * (r * r)) - w * w) * A) (hx : x1 * w = -A) :
    w ^ 3 * (x1 ^ 3 + A * x1 ^ 2 + x1) = N := by
  linear_combination (A ^ 3) * hw + (-1) * hN +
    (-A ^ 2 * w + A ^ 2 + A * w ^ 2 * x1 - A * w * x1 + w ^ 2 * x1 ^ 2 + w ^ 2) * hx

theorem G2 (hw : w = 1 + 2 * r ^ 2) (hN : N = (A * A * (2 * (r * r)) - w * w) * A) (hx : x1 * w = -A) :
    w ^ 3 * ((-x1 - A) ^ 3 + A * (-x1 - A) ^ 2 + (-x1 - A)) = 2 * r ^ 2 * N := by
  linear_combination (N + A ^ 3 * w - A ^ 3) * hw + (1 - w) * hN +
    (-A ^ 2 * w ^ 2 + 2 * A ^ 2 * w - A ^ 2 - 2 * A * w ^ 2 * x1 + A * w * x1 - w ^ 2 * x1 ^ 2 - w ^ 2) * hx

end Algebra

/-! the intermediate values of the straight-line code of `montgomeryFlavor` -/

/-- `u` after `u.Add(&t1, &field.One)`: 1 + 2r² -/
def mW (r : Nat) : Nat := Fp.add (feSquare2 r) fieldOne
/-- `t2` = (1 + 2r²)² -/
def mT2 (r : Nat) : Nat := Fp.sq (mW r)
/-- `t3`, the numerator A(2A²r² − (1+2r²)²) -/
def mT3 (r : Nat) : Nat :=
  Fp.mul (Fp.sub (Fp.mul constMONTGOMERY_A_SQUARED (feSquare2 r)) (mT2 r)) constMONTGOMERY_A
/-- `t1` before `InvSqrt`: numerator · denominator -/
def mT1 (r : Nat) : Nat := Fp.mul (Fp.mul (mT2 r) (mW r)) (mT3 r)
/-- the flag returned by `InvSqrt` -/
def mOk (r : Nat) : Bool := (Fp.sqrtRatioM1 1 (mT1 r)).1
/-- `t1` after `InvSqrt` -/
def mS (r : Nat) : Nat := (Fp.sqrtRatioM1 1 (mT1 r)).2

theorem montgomeryFlavor_unfold (r : Nat) : montgomeryFlavor r =
    (Fp.mul (Fp.mul (Fp.mul (Fp.mul
        (feConditionalAssign (Fp.mul (Fp.sq r) constMONTGOMERY_U_FACTOR) fieldOne (b2i (mOk r)))
        constMONTGOMERY_NEG_A) (mT3 r)) (mT2 r)) (Fp.sq (mS r)),
     feConditionalNegate
       (Fp.mul (Fp.mul (feConditionalAssign (Fp.mul r constMONTGOMERY_V_FACTOR) fieldOne (b2i (mOk r))) (mT3 r)) (mS r))
       (b2i (mOk r) ^^^ feIsNegative
         (Fp.mul (Fp.mul (feConditionalAssign (Fp.mul r constMONTGOMERY_V_FACTOR) fieldOne (b2i (mOk r))) (mT3 r)) (mS r)))) := by
  unfold montgomeryFlavor feInvSqrt mOk mS mT1 mT3 mT2 mW
  simp only []

@[fp] theorem toZ_feSquare2 (r : Nat) : toZ (feSquare2 r) = 2 * (toZ r * toZ r) := by
  unfold feSquare2; simp only [fp]

theorem toZ_mW (r : Nat) : toZ (mW r) = 1 + 2 * toZ r ^ 2 := by
  unfold mW fieldOne; simp only [fp]; ring

theorem toZ_mT2 (r : Nat) : toZ (mT2 r) = toZ (mW r) * toZ (mW r) := by
  unfold mT2; rw [toZ_sq]

theorem toZ_mT3 (r : Nat) :
    toZ (mT3 r) = (A * A * (2 * (toZ r * toZ r)) - toZ (mW r) * toZ (mW r)) * A := by
  unfold mT3; simp only [fp, toZ_mT2]

theorem toZ_mT1 (r : Nat) : toZ (mT1 r) = toZ (mW r) ^ 3 * toZ (mT3 r) := by
  unfold mT1; rw [toZ_mul, toZ_mul, toZ_mT2]; ring

theorem mW_ne (r : Nat) : toZ (mW r) ≠ 0 := by
  rw [toZ_mW]; exact one_add_two_sq_ne_zero _

theorem mW3_ne (r : Nat) : toZ (mW r) ^ 3 ≠ 0 := pow_ne_zero _ (mW_ne r)

theorem mT3_ne (r : Nat) : toZ (mT3 r) ≠ 0 := by
  rw [toZ_mT3, toZ_mW]
  apply mul_ne_zero _ A_ne_zero
  have := num_ne_zero (toZ r)
  intro h; apply this; linear_combination h

theorem mT1_ne (r : Nat) : toZ (mT1 r) ≠ 0 := by
  rw [toZ_mT1]; exact mul_ne_zero (mW3_ne r) (mT3_ne r)

theorem mS_ok {r : Nat} (h : mOk r = true) : toZ (mW r) ^ 3 * toZ (mT3 r) * toZ (mS r) ^ 2 = 1 := by
  have := sqrtRatioM1_ok (u := 1) (v := mT1 r) h
  rw [toZ_mT1, toZ_one] at this; exact this

theorem mS_not_ok {r : Nat} (h : mOk r = false) : toZ (mW r) ^ 3 * toZ (mT3 r) * toZ (mS r) ^ 2 = I := by
  have := sqrtRatioM1_not_ok (u := 1) (mT1_ne r) h
  rw [toZ_mT1, toZ_one, mul_one] at this; exact this

theorem mOk_iff (r : Nat) : mOk r = true ↔ IsSquare (1 / (toZ (mW r) ^ 3 * toZ (mT3 r))) := by
  have := sqrtRatioM1_ok_iff (u := 1) (mT1_ne r)
  rw [toZ_mT1, toZ_one] at this; exact this

/-- `x1` of RFC 9380 §6.7.1 -/
def sX1 (r : Nat) : Nat := Fp.mul (Fp.neg J) (inv0 (Fp.add 1 (Fp.mul Z (Fp.sq r))))
/-- `x2` -/
def sX2 (r : Nat) : Nat := Fp.sub (Fp.neg (sX1 r)) J

theorem sX1_lt (r : Nat) : sX1 r < p := mul_lt _ _
theorem sX2_lt (r : Nat) : sX2 r < p := sub_lt _ _

theorem toZ_sX1 (r : Nat) : toZ (sX1 r) * toZ (mW r) = -A := by
  unfold sX1 inv0
  simp only [fp]
  rw [← pow_two, ← toZ_mW, mul_assoc, inv_mul_cancel₀ (mW_ne r), mul_one]

theorem toZ_sX2 (r : Nat) : toZ (sX2 r) = -toZ (sX1 r) - A := by
  unfold sX2; simp only [fp]

/-- the branch `x1 == 0 ⇒ x1 := −J` of §6.7.1 (the image of the exceptional case) is never taken -/
theorem sX1_ne_zero (r : Nat) : (sX1 r == 0) = false := by
  rw [← Bool.not_eq_true, beq_iff_eq]
  intro h
  have := toZ_sX1 r
  rw [h, toZ_zero, zero_mul] at this
  exact A_ne_zero (neg_eq_zero.1 this.symm)

theorem mapToCurveElligator2_unfold (r : Nat) : mapToCurveElligator2 r =
    if isSquare (montG (sX1 r)) then (sX1 r, sqrtSgn (montG (sX1 r)) 1)
    else (sX2 r, sqrtSgn (montG (sX2 r)) 0) := by
  unfold mapToCurveElligator2
  simp only []
  have : (if (Fp.mul (Fp.neg J) (inv0 (Fp.add 1 (Fp.mul Z (Fp.sq r)))) == 0) = true then Fp.neg J
      else Fp.mul (Fp.neg J) (inv0 (Fp.add 1 (Fp.mul Z (Fp.sq r))))) = sX1 r := by
    have h := sX1_ne_zero r
    unfold sX1 at h ⊢
    rw [h]; rfl
  rw [this]
  rfl

theorem toZ_montG (x : Nat) : toZ (montG x) = toZ x ^ 3 + A * toZ x ^ 2 + toZ x := by
  unfold montG; simp only [fp]; ring

theorem gx1_eq (r : Nat) : toZ (mW r) ^ 3 * toZ (montG (sX1 r)) = toZ (mT3 r) := by
  rw [toZ_montG]
  exact G1 (toZ_mW r) (toZ_mT3 r) (toZ_sX1 r)

theorem gx2_eq (r : Nat) : toZ (mW r) ^ 3 * toZ (montG (sX2 r)) = 2 * toZ r ^ 2 * toZ (mT3 r) := by
  rw [toZ_montG, toZ_sX2]
  exact G2 (toZ_mW r) (toZ_mT3 r) (toZ_sX1 r)

theorem sgn0_of_nonneg {y : Nat} (hn : Fp.isNeg y = false) : sgn0 y = 0 := by
  unfold Fp.isNeg at hn
  unfold sgn0
  have : ¬ y % p % 2 = 1 := by simpa using hn
  omega

theorem sqrt_eq {g y : Nat} (hy : y < p) (hn : Fp.isNeg y = false) (h : toZ y ^ 2 = toZ g) : sqrt g = y := by
  unfold sqrt
  rw [sqrtRatioM1_unique (toZ_one ▸ one_ne_zero) hy hn (by rw [toZ_one, one_mul]; exact h)]

theorem sqrtSgn_eq {g y : Nat} (hy : y < p) (hn : Fp.isNeg y = false) (h : toZ y ^ 2 = toZ g) :
    sqrtSgn g 0 = y ∧ sqrtSgn g 1 = Fp.neg y := by
  unfold sqrtSgn
  simp only [sqrt_eq hy hn h, sgn0_of_nonneg hn]
  exact ⟨rfl, rfl⟩

/-! the sign rule `v.ConditionalNegate(isSquare ^ v.IsNegative())` -/

theorem condNeg_square {v : Nat} (hv : v < p) :
    feConditionalNegate v (b2i true ^^^ feIsNegative v) = Fp.neg (Fp.abs v) := by
  unfold feConditionalNegate feIsNegative Fp.abs b2i
  cases h : Fp.isNeg v
  · simp [Nat.mod_eq_of_lt hv]
  · simp [fp_neg_neg hv]

theorem condNeg_nonsquare {v : Nat} (hv : v < p) :
    feConditionalNegate v (b2i false ^^^ feIsNegative v) = Fp.abs v := by
  unfold feConditionalNegate feIsNegative Fp.abs b2i
  cases h : Fp.isNeg v
  · simp [Nat.mod_eq_of_lt hv]
  · simp

/-! `InvSqrt` succeeds: `u = x1`, `v² = g(x1)`, `v` made negative (sgn0 = 1).  It fails: `u = x2`, `v² = g(x2)`, `v` made
non-negative (sgn0 = 0). -/

/-- `v` before the sign fix, square case: `1 · t3 · s` -/
def mV0s (r : Nat) : Nat := Fp.mul (Fp.mul fieldOne (mT3 r)) (mS r)
/-- `v` before the sign fix, non-square case: `r · V_FACTOR · t3 · s` -/
def mV0n (r : Nat) : Nat := Fp.mul (Fp.mul (Fp.mul r constMONTGOMERY_V_FACTOR) (mT3 r)) (mS r)
/-- `u`, square case -/
def mUs (r : Nat) : Nat :=
  Fp.mul (Fp.mul (Fp.mul (Fp.mul fieldOne constMONTGOMERY_NEG_A) (mT3 r)) (mT2 r)) (Fp.sq (mS r))
/-- `u`, non-square case -/
def mUn (r : Nat) : Nat :=
  Fp.mul (Fp.mul (Fp.mul (Fp.mul (Fp.mul (Fp.sq r) constMONTGOMERY_U_FACTOR) constMONTGOMERY_NEG_A) (mT3 r)) (mT2 r))
    (Fp.sq (mS r))

theorem montgomeryFlavor_square {r : Nat} (h : mOk r = true) :
    montgomeryFlavor r = (mUs r, Fp.neg (Fp.abs (mV0s r))) := by
  rw [montgomeryFlavor_unfold, h]
  have e : ∀ a b, feConditionalAssign a b (b2i true) = b := fun a b => rfl
  rw [e, e, condNeg_square (mul_lt _ _)]
  rfl

theorem montgomeryFlavor_nonsquare {r : Nat} (h : mOk r = false) :
    montgomeryFlavor r = (mUn r, Fp.abs (mV0n r)) := by
  rw [montgomeryFlavor_unfold, h]
  have e : ∀ a b, feConditionalAssign a b (b2i false) = a := fun a b => rfl
  rw [e, e, condNeg_nonsquare (mul_lt _ _)]
  rfl

theorem mUs_eq {r : Nat} (h : mOk r = true) : mUs r = sX1 r := by
  apply toZ_inj (mul_lt _ _) (sX1_lt r)
  apply mul_right_cancel₀ (mW_ne r)
  rw [toZ_sX1]
  unfold fieldOne
  simp only [fp, toZ_mT2]
  linear_combination (-A) * mS_ok h

theorem mV0s_sq {r : Nat} (h : mOk r = true) : toZ (mV0s r) ^ 2 = toZ (montG (sX1 r)) := by
  apply mul_left_cancel₀ (mW3_ne r)
  rw [gx1_eq]
  unfold mV0s fieldOne
  simp only [fp]
  linear_combination (toZ (mT3 r)) * mS_ok h

theorem mUn_eq {r : Nat} (h : mOk r = false) : mUn r = sX2 r := by
  apply toZ_inj (mul_lt _ _) (sX2_lt r)
  apply mul_right_cancel₀ (mW_ne r)
  rw [toZ_sX2]
  simp only [fp, toZ_mT2]
  linear_combination (2 * I * A * toZ r * toZ r) * mS_not_ok h + (2 * A * toZ r * toZ r) * I_sq
    + toZ_sX1 r + A * toZ_mW r

theorem mV0n_sq {r : Nat} (h : mOk r = false) : toZ (mV0n r) ^ 2 = toZ (montG (sX2 r)) := by
  apply mul_left_cancel₀ (mW3_ne r)
  rw [gx2_eq]
  unfold mV0n
  simp only [fp]
  linear_combination (toZ r ^ 2 * toZ (mT3 r) * (toZ constMONTGOMERY_V_FACTOR * toZ constMONTGOMERY_V_FACTOR)) * mS_not_ok h
    + (toZ r ^ 2 * toZ (mT3 r) * I) * toZ_cV_sq + (-2 * toZ r ^ 2 * toZ (mT3 r)) * I_sq

theorem mOk_eq_isSquare (r : Nat) : mOk r = isSquare (montG (sX1 r)) := by
  rw [Bool.eq_iff_iff, isSquare_iff]
  refine ⟨fun h => ⟨toZ (mV0s r), by rw [← mV0s_sq h, pow_two]⟩, ?_⟩
  -- `g(x1) = c²` gives `1 / (w³ N) = (c / N)²`, because `w³ g(x1) = N`
  rintro ⟨c, hc⟩
  have hN := mT3_ne r
  rw [mOk_iff]
  refine ⟨c / toZ (mT3 r), ?_⟩
  rw [div_mul_div_comm, div_eq_div_iff (mul_ne_zero (mW3_ne r) hN) (mul_ne_zero hN hN), ← gx1_eq, hc]
  ring

/-- C14, Montgomery level: the straight-line `montgomeryFlavor` returns exactly the point (s, t) of RFC 9380 §6.7.1
`map_to_curve_elligator2` for curve25519 (Z = 2), including the choice of the root by `sgn0`, for every natural `r` (the
field decoder only produces `r < p`). -/
theorem montgomery_model_eq_spec (r : Nat) : montgomeryFlavor r = mapToCurveElligator2 r := by
  rw [mapToCurveElligator2_unfold, ← mOk_eq_isSquare]
  cases h : mOk r
  · rw [montgomeryFlavor_nonsquare h]
    simp only [Bool.false_eq_true, if_false]
    rw [mUn_eq h, (sqrtSgn_eq (abs_lt _) (abs_nonneg _) (by rw [toZ_abs_sq]; exact mV0n_sq h)).1]
  · rw [montgomeryFlavor_square h]
    simp only [if_true]
    rw [mUs_eq h, (sqrtSgn_eq (abs_lt _) (abs_nonneg _) (by rw [toZ_abs_sq]; exact mV0s_sq h)).2]

theorem montgomery_on_curve (r : Nat) :
    (montgomeryFlavor r).1 < p ∧ (montgomeryFlavor r).2 < p ∧
    toZ (montgomeryFlavor r).2 ^ 2 =
      toZ (montgomeryFlavor r).1 ^ 3 + A * toZ (montgomeryFlavor r).1 ^ 2 + toZ (montgomeryFlavor r).1 := by
  cases h : mOk r
  · rw [montgomeryFlavor_nonsquare h]
    simp only []
    refine ⟨mul_lt _ _, abs_lt _, ?_⟩
    rw [toZ_abs_sq, mV0n_sq h, mUn_eq h, toZ_montG]
  · rw [montgomeryFlavor_square h]
    simp only []
    refine ⟨mul_lt _ _, neg_lt _, ?_⟩
    rw [Voi.Props.C07.toZ_neg, neg_pow_two, toZ_abs_sq, mV0s_sq h, mUs_eq h, toZ_montG]

/-- `(u, v)` on `v² = u³ + Au² + u`, `v ≠ 0`, `u ≠ −1` ⇒ `(c·u/v, (u−1)/(u+1))` with `c² = −(A+2)`
is on `−x² + y² = 1 + d x² y²`, `d = −(A−2)/(A+2) = −121665/121666`: with the denominators cleared the
difference of the two sides is `−4u·(v² − u³ − Au² − u)`. -/
theorem edwards_of_montgomery {u v c d : ZMod p} (hv : v ≠ 0) (hu : u + 1 ≠ 0) (hc : c ^ 2 = -486664)
    (hcurve : v ^ 2 = u ^ 3 + A * u ^ 2 + u) (hd : d * 121666 = -121665) :
    -(c * (u * v⁻¹)) ^ 2 + ((u - 1) * (u + 1)⁻¹) ^ 2 =
      1 + d * (c * (u * v⁻¹)) ^ 2 * ((u - 1) * (u + 1)⁻¹) ^ 2 := by
  field_simp
  linear_combination (-u ^ 2 * (u + 1) ^ 2 - u ^ 2 * (u - 1) ^ 2 * d) * hc + (4 * u ^ 2 * (u - 1) ^ 2) * hd
    + (-4 * u) * hcurve

theorem montToEdwards_onCurve {s t : Nat}
    (hcurve : toZ t ^ 2 = toZ s ^ 3 + A * toZ s ^ 2 + toZ s) : (montToEdwards s t).onCurve = true := by
  unfold montToEdwards
  by_cases hex : (t % p == 0 || Fp.add s 1 == 0) = true
  · rw [if_pos hex]; exact Voi.Proofs.zero_onCurve
  · rw [if_neg hex, Voi.Proofs.onCurve_iff]
    rw [Bool.or_eq_true, not_or, beq_iff_eq, beq_iff_eq, ← toZ_eq_zero_iff, ← toZ_inj_iff (add_lt _ _) p_pos] at hex
    simp only [fp] at hex ⊢
    exact ⟨trivial, trivial, edwards_of_montgomery hex.1 hex.2 (cSqrt_eq ▸ toZ_cSqrt_sq) hcurve Voi.Proofs.d25519_mul⟩

theorem mapToCurve_eq (r : Nat) :
    mapToCurve r = montToEdwards (mapToCurveElligator2 r).1 (mapToCurveElligator2 r).2 := by
  unfold mapToCurve
  generalize mapToCurveElligator2 r = st
  obtain ⟨s, t⟩ := st
  rfl

theorem mapToCurve_onCurve (r : Nat) : (mapToCurve r).onCurve = true := by
  have h := montgomery_on_curve r
  rw [montgomery_model_eq_spec] at h
  rw [mapToCurve_eq]
  exact montToEdwards_onCurve h.2.2

/-- the affine coordinates computed by `EdwardsFlavor` from `(u, v)`, before `SetEdwardsFromXY` -/
def eXY (u v : Nat) : Pt :=
  ⟨feConditionalAssign (Fp.mul (Fp.mul (Fp.inv v) u) constMONTGOMERY_SQRT_NEG_A_PLUS_TWO) constFieldZero
     (feIsZero (Fp.add u fieldOne) ||| feIsZero v),
   feConditionalAssign (Fp.mul (Fp.sub u fieldOne) (Fp.inv (Fp.add u fieldOne))) fieldOne
     (feIsZero (Fp.add u fieldOne) ||| feIsZero v)⟩

theorem edwardsFlavor_unfold (r : Nat) :
    edwardsFlavor r =
      setEdwardsFromXY (eXY (montgomeryFlavor r).1 (montgomeryFlavor r).2).x
        (eXY (montgomeryFlavor r).1 (montgomeryFlavor r).2).y := by
  unfold edwardsFlavor eXY
  simp only []

/-- the `ConditionalAssign`s are the Spec's exceptional cases (`v = 0` or `u = −1` ↦ (0, 1)) -/
theorem eXY_eq (u v : Nat) : eXY u v = montToEdwards u v := by
  unfold eXY montToEdwards feIsZero fieldOne constFieldZero
  rw [Nat.mod_eq_of_lt (add_lt u 1), cSqrt_eq]
  have hx : Fp.mul (Fp.mul (Fp.inv v) u) sqrtNeg486664 = Fp.mul sqrtNeg486664 (Fp.mul u (Fp.inv v)) := by
    apply toZ_inj (mul_lt _ _) (mul_lt _ _)
    simp only [fp]; ring
  rw [hx]
  cases h1 : (Fp.add u 1 == 0) <;> cases h2 : (v % p == 0) <;>
    simp [b2i, feConditionalAssign, Pt.zero]

theorem setEdwardsFromXY_eq (P : Pt) : setEdwardsFromXY P.x P.y = Pt.decode (Pt.encode P) := by
  unfold setEdwardsFromXY Pt.encode feIsNegative b2i
  cases Fp.isNeg P.x <;> simp

/-- C14, Elligator 2: for every representative `r` the straight-line `EdwardsFlavor` never panics and returns exactly the
affine edwards25519 point of RFC 9380 §6.8.2 `map_to_curve_elligator2_edwards25519` (§6.7.1 with Z = 2, then
Appendix D.1). -/
theorem elligator_model_eq_spec (r : Nat) : edwardsFlavor r = some (mapToCurve r) := by
  rw [edwardsFlavor_unfold, setEdwardsFromXY_eq, eXY_eq, montgomery_model_eq_spec, ← mapToCurve_eq]
  exact Voi.Props.C10.encode_decode (mapToCurve_onCurve r)

theorem elligator_on_curve (r : Nat) : ∃ P, edwardsFlavor r = some P ∧ P.onCurve = true :=
  ⟨mapToCurve r, elligator_model_eq_spec r, mapToCurve_onCurve r⟩

/-- `EdwardsFlavor` never reaches the `panic` of `SetEdwardsFromXY` -/
theorem edwardsFlavor_no_panic (r : Nat) : edwardsFlavor r ≠ none := by
  rw [elligator_model_eq_spec]; exact Option.some_ne_none _

end Voi.Props.C14

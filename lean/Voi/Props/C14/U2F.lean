/-
C14 — `uniformToField25519` (h2c.go): 48 big-endian bytes, reversed, zero-extended to 64 bytes and
decoded by `SetBytesWide`, are `OS2IP(b) mod p` (RFC 9380 §5.2 hash_to_field, m = 1, L = 48).
Core Lean only.
-/
import Voi.Props.C14.Bytes
namespace Voi.Props.C14
open Voi Voi.Spec Voi.Spec.H2C Voi.Model.H2C Voi.Props.Bytes

/-- the zero-extended little-endian string built by `uniformToField25519` has the value OS2IP(b) -/
theorem leNat_extended (b : Bytes) (hb : b.size ≤ 64) :
    leNat (goCopy (bzero elementWideSize) 0 (reversedByteSlice b)) = beNat b := by
  have hs : (reversedByteSlice b).size ≤ elementWideSize := by rw [reversedByteSlice_size]; exact hb
  rw [goCopy_fits _ _ _ (by rw [bzero_size]; omega), ByteArray.extract_same, ByteArray.empty_append, bzero_size,
    Nat.zero_add, bzero_extract _ _ _ (Nat.le_refl _), leNat_pad, leNat_reversed]

/-- **`uniformToField25519` = OS2IP mod p** on 48 bytes (RFC 9380 §5.2 for F_p, L = 48). -/
theorem uniformToField_eq (b : Bytes) (hb : b.size = 48) :
    uniformToField25519 b = some (os2ipModP b) := by
  unfold uniformToField25519 setBytesWide os2ipModP
  rw [if_neg (by rw [hb]; decide), if_neg (by rw [goCopy_size, bzero_size]; decide), leNat_extended b (by omega)]

/-- it panics exactly on a wrong length (never reached from the suites: they pass 48-byte slices) -/
theorem uniformToField_none_iff (b : Bytes) : uniformToField25519 b = none ↔ b.size ≠ 48 := by
  refine ⟨fun h hb => ?_, fun hb => if_pos hb⟩
  rw [uniformToField_eq b hb] at h; cases h

end Voi.Props.C14

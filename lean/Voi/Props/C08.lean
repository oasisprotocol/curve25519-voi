/-
C08: constant time at the source level.  What is a theorem here and what is not (DESIGN.md §7):
* Every limb-level function of the three serial backends is regenerated (go2ir) as a program of the straight-line IR of
  `Voi.IR.Basic`.  That IR has no branch, no loop and no data-dependent addressing: the sequence of executed instructions
  and the positions they read are the program text (`ir_leak_const`, `run_steps_const`).
* For the entry points above the limb level (scalar multiplication, signing, X25519, sr25519, ECVRF, …) go2ir executes the
  SSA of the Go code with all secret inputs symbolic.  The execution succeeds only if no branch condition, memory index,
  slice bound, shift count or allocation size depends on a symbolic value — for all secret values at once, per public
  shape.  The outcome table `Voi.Gen.CT.results` is regenerated on every run and checked here by the kernel: every
  constant-time entry point translated, every negative control (a *Vartime routine fed a secret) was rejected.
* Of the default amd64 build (`amd64asm` in the table) the Go glue (vector point arithmetic, table construction,
  dispatch on the CPU feature flag) is executed symbolically; the assembly routines it calls are summarised as
  primitives that make everything they can write secret.  Their own control flow and addressing are outside the
  executor's reach and are covered by a committed skeleton (`lib/asm_skeleton.json`).
* The symbolic executor is trusted; stream T0 runs the programs it emits against the real functions.
-/
import Voi.IR.Basic
import Voi.Gen.CT
namespace Voi.Props.C08
open Voi.IR

/-- the source-level leakage of running an IR program: which instructions execute and which value positions they read.
Both are the program text. -/
def leak (P : List Op) (_e : Env) : List Op := P

theorem ir_leak_const (P : List Op) (e₁ e₂ : Env) : leak P e₁ = leak P e₂ := rfl

theorem run_steps_const (P : List Op) (e₁ e₂ : Env) :
    (run P e₁).length - e₁.length = (run P e₂).length - e₂.length := by
  simp [run_length]

/-- `r.2.1`: translated; `r.2.2.1`: expected to translate (false for the negative controls) -/
theorem ct_table_ok : (Voi.Gen.CT.results.all fun r => r.2.1 == r.2.2.1) = true := by decide +kernel

/-- the table is not vacuous; its rows are (entry point × backend) pairs, `!r.2.2.1` selects the negative controls -/
theorem ct_table_size : 100 ≤ Voi.Gen.CT.results.length ∧ 3 ≤ (Voi.Gen.CT.results.filter fun r => !r.2.2.1).length := by decide +kernel

/-- the whole variable-base scalar multiplication is among the translated entry points -/
example : (Voi.Gen.CT.results.any fun r => r.1 == "Edwards_Mul@purego" && r.2.1 && decide (100000 < r.2.2.2)) = true := by decide +kernel

/-- … also as the default amd64 build executes it (AVX2 vector backend; the summaries are `asmSummary` in go2ir) -/
example : (Voi.Gen.CT.results.any fun r => r.1 == "EdwardsPoint_Mul@amd64asm" && r.2.1 && decide (100000 < r.2.2.2)) = true := by decide +kernel

end Voi.Props.C08

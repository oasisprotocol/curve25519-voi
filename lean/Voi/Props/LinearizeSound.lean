/-
Property C18 (stream C2, `lru.lin`): the Wing–Gong search of `Model.Linearize` decides linearizability.
`IsLinearization s h l`: `l` is a permutation of the recorded history `h` that respects real-time order (no operation
is placed before one that had already returned when it was called) and whose sequential replay on the model from
state `s` reproduces every observed `Get` result.  The search succeeds exactly when such an `l` exists
(`linearizable_iff`; completeness needs call ≤ return on every event), so a reply `bool 0` of the Lean side means
that no sequential explanation of the recorded concurrent history exists, and `bool 1` comes with a witness.
-/
import Voi.Model.Linearize
namespace Voi.Props.LinearizeSound
open Voi.Model Voi.Model.LRU Voi.Model.Linearize

variable {K V : Type} [DecidableEq K] [DecidableEq V]

def replay : State K V → List (Ev K V) → Bool
  | _, [] => true
  | s, e :: l => agrees e (step s e.op).2 && replay (step s e.op).1 l

def mayPrecede (a b : Ev K V) : Prop := ¬ (b.ret < a.call)

structure IsLinearization (s : State K V) (h l : List (Ev K V)) : Prop where
  perm : l.Perm h
  order : l.Pairwise mayPrecede
  replay : replay s l = true

theorem perm_cons_eraseIdx {α : Type} {l : List α} {i : Nat} {a : α} (h : l[i]? = some a) :
    (a :: l.eraseIdx i).Perm l := by
  obtain ⟨hi, rfl⟩ := List.getElem?_eq_some_iff.mp h
  -- `l` is `take i l ++ l[i] :: drop (i + 1) l`
  rw [List.eraseIdx_eq_take_drop_succ]
  refine List.perm_middle.symm.trans ?_
  rw [List.getElem_cons_drop, List.take_append_drop]

omit [DecidableEq K] [DecidableEq V] in
theorem minimal_iff (rem : List (Ev K V)) (e : Ev K V) :
    minimal rem e = true ↔ ∀ e' ∈ rem, mayPrecede e e' := by
  simp [minimal, mayPrecede]

theorem search_succ (fuel : Nat) (s : State K V) (h : List (Ev K V)) :
    search (fuel + 1) s h = true ↔ h.isEmpty = true ∨ ∃ i e, h[i]? = some e ∧ (∀ e' ∈ h, mayPrecede e e') ∧
      agrees e (step s e.op).2 = true ∧ search fuel (step s e.op).1 (h.eraseIdx i) = true := by
  rw [search, Bool.or_eq_true, List.any_eq_true]
  refine or_congr Iff.rfl ⟨?_, ?_⟩
  · rintro ⟨i, -, hi⟩
    cases hg : h[i]? with
    | none => simp [hg] at hi
    | some e => exact ⟨i, e, hg, by simpa [hg, minimal_iff] using hi⟩
  · rintro ⟨i, e, hg, hmin, hag, hrest⟩
    refine ⟨i, List.mem_range.mpr (List.getElem?_eq_some_iff.mp hg).1, ?_⟩
    simp only [hg, Bool.and_eq_true, minimal_iff]
    exact ⟨hmin, hag, hrest⟩

theorem linearization_of_isEmpty (s : State K V) {h : List (Ev K V)} (he : h.isEmpty = true) :
    ∃ l, IsLinearization s h l :=
  ⟨[], List.isEmpty_iff.mp he ▸ List.Perm.refl _, List.Pairwise.nil, rfl⟩

theorem search_sound (fuel : Nat) (s : State K V) (h : List (Ev K V)) (hs : search fuel s h = true) :
    ∃ l, IsLinearization s h l := by
  induction fuel generalizing s h with
  | zero => exact linearization_of_isEmpty s hs
  | succ fuel ih =>
    rcases (search_succ fuel s h).mp hs with he | ⟨i, e, hg, hmin, hag, hrest⟩
    · exact linearization_of_isEmpty s he
    · obtain ⟨l, hl⟩ := ih _ _ hrest
      refine ⟨e :: l, (hl.perm.cons e).trans (perm_cons_eraseIdx hg), ?_, ?_⟩
      · exact List.pairwise_cons.mpr
          ⟨fun e' he' => hmin e' (List.mem_of_mem_eraseIdx (hl.perm.mem_iff.mp he')), hl.order⟩
      · simp only [replay, Bool.and_eq_true]; exact ⟨hag, hl.replay⟩

theorem search_complete (fuel : Nat) (s : State K V) (h l : List (Ev K V))
    (hw : ∀ e ∈ h, e.call ≤ e.ret) (hl : IsLinearization s h l) (hf : h.length ≤ fuel) :
    search fuel s h = true := by
  induction l generalizing fuel s h with
  | nil =>
    have : h = [] := List.Perm.eq_nil (hl.perm.symm)
    subst this
    cases fuel <;> simp [search]
  | cons e l ih =>
    obtain ⟨i, hi⟩ := List.mem_iff_getElem?.mp (hl.perm.mem_iff.mp List.mem_cons_self)
    have hlt : i < h.length := (List.getElem?_eq_some_iff.mp hi).1
    cases fuel with
    | zero => omega
    | succ fuel =>
      have hp := perm_cons_eraseIdx hi
      have hperm : l.Perm (h.eraseIdx i) := List.Perm.cons_inv (hl.perm.trans hp.symm)
      have hord := List.pairwise_cons.mp hl.order
      have hrep : agrees e (step s e.op).2 = true ∧ replay (step s e.op).1 l = true := by
        simpa [replay] using hl.replay
      refine (search_succ fuel s h).mpr (Or.inr ⟨i, e, hi, fun e' he' => ?_, hrep.1, ?_⟩)
      · -- every other event of `h` comes later in `l`; `e` itself does not return before it is called
        rcases List.mem_cons.mp (hp.mem_iff.mpr he') with rfl | h2
        · have := hw e' he'; unfold mayPrecede; omega
        · exact hord.1 e' (hperm.mem_iff.mpr h2)
      · apply ih
        · intro e' he'; exact hw e' (List.mem_of_mem_eraseIdx he')
        · exact ⟨hperm, hord.2, hrep.2⟩
        · rw [List.length_eraseIdx_of_lt hlt]; omega

theorem linearizable_iff (cap : Nat) (h : List (Ev K V)) (hw : ∀ e ∈ h, e.call ≤ e.ret) :
    linearizable cap h = true ↔ ∃ l, IsLinearization (new cap : State K V) h l := by
  unfold linearizable
  constructor
  · exact search_sound _ _ _
  · rintro ⟨l, hl⟩; exact search_complete _ _ _ l hw hl (Nat.le_refl _)

/-- a history that is linearizable only because the two operations overlap -/
example : linearizable 1 ([⟨1, 4, .put 0 (some 7), none⟩, ⟨2, 3, .get 0, none⟩] : List (Ev Nat Nat)) = true := by
  decide
/-- the same operations without overlap: the `Get` must see the `Put` -/
example : linearizable 1 ([⟨1, 2, .put 0 (some 7), none⟩, ⟨3, 4, .get 0, none⟩] : List (Ev Nat Nat)) = false := by
  decide
/-- an evicted key cannot be returned -/
example : linearizable 1 ([⟨1, 2, .put 0 (some 7), none⟩, ⟨3, 4, .put 1 (some 8), none⟩,
    ⟨5, 6, .get 0, some 7⟩] : List (Ev Nat Nat)) = false := by decide

end Voi.Props.LinearizeSound

#print axioms Voi.Props.LinearizeSound.search_sound
#print axioms Voi.Props.LinearizeSound.search_complete
#print axioms Voi.Props.LinearizeSound.linearizable_iff

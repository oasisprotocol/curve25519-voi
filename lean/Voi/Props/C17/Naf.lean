/-
C17, Scalar.NonAdjacentForm(w), 2 ≤ w ≤ 8: the loop with 64-bit word windows and `int8` arithmetic computes the same
array as `nafLoopZ`, which reads the bits of `n` directly and stores `window` resp. `window - 2^w` over ℤ
(`nafLoop_exact`); `NafInv` is the invariant of that loop.
-/
import Voi.Props.C17.Basic

namespace Voi.Props.C17
open Voi.Model.Recoding

def nafLoopZ (n w : Nat) : (fuel pos carry : Nat) → Array Int → Array Int
  | 0, _, _, naf => naf
  | fuel + 1, pos, carry, naf =>
    if pos < 256 then
      let window := carry + n / 2 ^ pos % 2 ^ w
      if window % 2 = 0 then nafLoopZ n w fuel (pos + 1) carry naf
      else if window < 2 ^ w / 2 then
        nafLoopZ n w fuel (pos + w) 0 (naf.setIfInBounds pos ((window : Nat) : Int))
      else
        nafLoopZ n w fuel (pos + w) 1 (naf.setIfInBounds pos (((window : Nat) : Int) - 2 ^ w))
    else naf

/-- `naf[pos] = int8(window)` -/
theorem naf_digit_small (w window : Nat) (hw : w ≤ 8) (h : window < 2 ^ w / 2) :
    wrap8 (window : Int) = (window : Int) := by
  have := Nat.pow_le_pow_right (show 0 < 2 by decide) hw
  exact wrap8_id _ (by omega) (by omega)

/-- `naf[pos] = int8(window) - int8(width)`.  The conversions may wrap (`int8(128) = -128` for w = 7; `int8(256) = 0`
    and `int8(window) = window - 256` for w = 8); the stored digit is still `window - 2^w`, because that fits `int8`. -/
theorem naf_digit_big (w window : Nat) (hw : w ≤ 8) (hle : window ≤ 2 ^ w) (hge : ¬ window < 2 ^ w / 2) :
    wrap8 (wrap8 (window : Int) - wrap8 (Int.ofNat (2 ^ w))) = (window : Int) - 2 ^ w := by
  have := Nat.pow_le_pow_right (show 0 < 2 by decide) hw
  rw [Int.ofNat_eq_natCast, ← Nat.cast_ofNat (R := Int), ← Nat.cast_pow]
  exact wrap8_sub _ _ (by omega) (by omega)

theorem nafLoop_exact (n w : Nat) (hn : n < 2 ^ 256) (hw : w ≤ 8) :
    ∀ (fuel pos carry : Nat) (naf : Array Int), carry ≤ 1 →
      nafLoop n w fuel pos carry naf = nafLoopZ n w fuel pos carry naf
  | 0, _, _, _, _ => rfl
  | fuel + 1, pos, carry, naf, hc => by
    unfold nafLoop nafLoopZ
    by_cases hpos : pos < 256
    · simp only [hpos, if_true]
      rw [nafBitBuf_mod n w pos hn hw hpos]
      by_cases heven : (carry + n / 2 ^ pos % 2 ^ w) % 2 = 0
      · simp only [heven, if_true]
        exact nafLoop_exact n w hn hw fuel _ _ _ hc
      · simp only [heven, if_false]
        by_cases hsmall : carry + n / 2 ^ pos % 2 ^ w < 2 ^ w / 2
        · simp only [hsmall, if_true]
          rw [naf_digit_small w _ hw hsmall]
          exact nafLoop_exact n w hn hw fuel _ _ _ (by omega)
        · simp only [hsmall, if_false]
          rw [naf_digit_big w _ hw (by omega) hsmall]
          exact nafLoop_exact n w hn hw fuel _ _ _ (by omega)
    · simp only [hpos, if_false]

/-- `Carried` with radix 2: digit `j` weighs `2^j`, positions count bits -/
structure NafInv (n w pos carry : Nat) (naf : Array Int) : Prop extends Carried n 1 256 pos carry naf where
  /-- once the loop has left the array the carry has been consumed (needs `n < 2^255`) -/
  carry_end : 256 ≤ pos → carry = 0
  shape : ∀ i, dig naf i ≠ 0 →
    i + w ≤ pos ∧ dig naf i % 2 = 1 ∧ (dig naf i).natAbs < 2 ^ (w - 1) ∧ ∀ j, i < j → j < i + w → dig naf j = 0

theorem nafInv_init (n w : Nat) : NafInv n w 0 0 (Array.replicate 256 0) where
  toCarried := Carried.init n 1 256
  carry_end := fun _ => rfl
  shape := fun i hi => absurd (dig_replicate 256 i) hi

theorem nafInv_even (n w pos carry : Nat) (naf : Array Int) (hn : n < 2 ^ 255) (hw : 2 ≤ w)
    (h : NafInv n w pos carry naf) (heven : (carry + n / 2 ^ pos % 2 ^ w) % 2 = 0) :
    NafInv n w (pos + 1) carry naf := by
  have hc := h.carry_le
  -- the low bit of the window is the low bit of the scalar at `pos`
  have hbit : n / 2 ^ pos % 2 ^ w % 2 = n / 2 ^ pos % 2 :=
    Nat.mod_mod_of_dvd _ (dvd_pow_self 2 (by omega))
  have hb : n / 2 ^ pos % 2 = carry := by omega
  refine ⟨h.toCarried.skip 1 carry hc (by rw [Nat.one_mul, Nat.one_mul, pow_one]; omega), fun hp => ?_, fun i hi => ?_⟩
  · have : n / 2 ^ pos = 0 := Nat.div_eq_of_lt (hn.trans_le (Nat.pow_le_pow_right (by decide) (by omega)))
    rw [this] at hb; omega
  · obtain ⟨h1, h2⟩ := h.shape i hi
    exact ⟨by omega, h2⟩

theorem nafInv_odd (n w pos carry : Nat) (naf : Array Int) (hw : 2 ≤ w) (hpos : pos < 256)
    (h : NafInv n w pos carry naf) (d : Int) (c' : Nat) (hc' : c' ≤ 1) (hend : 256 ≤ pos + w → c' = 0)
    (hd : d + (c' : Int) * 2 ^ w = (carry : Int) + ((n / 2 ^ pos % 2 ^ w : Nat) : Int)) (hdodd : d % 2 = 1)
    (hdabs : d.natAbs < 2 ^ (w - 1)) : NafInv n w (pos + w) c' (naf.setIfInBounds pos d) := by
  have hsz : pos < naf.size := by rw [h.size]; exact hpos
  refine ⟨h.toCarried.store hpos w (by omega) d c' hc' (by rw [Nat.one_mul, Nat.one_mul]; exact hd), hend,
    fun i hi => ?_⟩
  by_cases hip : i = pos
  · subst hip
    rw [dig_set_self _ _ _ hsz]
    refine ⟨Nat.le_refl _, hdodd, hdabs, fun j hj1 hj2 => ?_⟩
    rw [dig_set_ne _ _ _ _ (by omega)]; exact h.rest j (by omega)
  · rw [dig_set_ne _ _ _ _ hip] at hi ⊢
    obtain ⟨h1, h2, h3, h4⟩ := h.shape i hi
    refine ⟨by omega, h2, h3, fun j hj1 hj2 => ?_⟩
    rw [dig_set_ne _ _ _ _ (by omega)]; exact h4 j hj1 hj2

theorem two_pow_pred {w : Nat} (hw : 0 < w) : 2 ^ w = 2 * 2 ^ (w - 1) := by
  rw [← pow_succ']; congr 1; omega

theorem nafInv_small (n w pos carry : Nat) (naf : Array Int) (hw : 2 ≤ w) (hpos : pos < 256)
    (h : NafInv n w pos carry naf) (hodd : ¬ (carry + n / 2 ^ pos % 2 ^ w) % 2 = 0)
    (hsmall : carry + n / 2 ^ pos % 2 ^ w < 2 ^ w / 2) :
    NafInv n w (pos + w) 0 (naf.setIfInBounds pos ((carry + n / 2 ^ pos % 2 ^ w : Nat) : Int)) := by
  have hW := two_pow_pred (w := w) (by omega)
  exact nafInv_odd n w pos carry naf hw hpos h _ 0 (by omega) (fun _ => rfl) (by simp) (by omega) (by omega)

/-- near the top of the array this branch is not taken (`n < 2^255`), so the last carry is 0 -/
theorem nafInv_big (n w pos carry : Nat) (naf : Array Int) (hn : n < 2 ^ 255) (hw : 2 ≤ w) (hpos : pos < 256)
    (h : NafInv n w pos carry naf) (hodd : ¬ (carry + n / 2 ^ pos % 2 ^ w) % 2 = 0)
    (hbig : ¬ carry + n / 2 ^ pos % 2 ^ w < 2 ^ w / 2) :
    NafInv n w (pos + w) 1 (naf.setIfInBounds pos (((carry + n / 2 ^ pos % 2 ^ w : Nat) : Int) - 2 ^ w)) := by
  have hc := h.carry_le
  have hW := two_pow_pred (w := w) (by omega)
  have hH := two_pow_pred (w := w - 1) (by omega)
  have hWi : (2 : Int) ^ w = ((2 ^ w : Nat) : Int) := by push_cast; rfl
  refine nafInv_odd n w pos carry naf hw hpos h _ 1 (by omega) (fun hp => ?_) (by push_cast; ring)
    (by rw [hWi]; omega) (by rw [hWi]; omega)
  -- at most `w - 1` bits are left: a window that large would be `2^(w-1)`, which is even
  have := div_pow_lt n 255 pos (w - 1) hn (by omega)
  have hmod : n / 2 ^ pos % 2 ^ w = n / 2 ^ pos := Nat.mod_eq_of_lt (by omega)
  omega

theorem nafLoopZ_inv (n w : Nat) (hn : n < 2 ^ 255) (hw : 2 ≤ w) :
    ∀ (fuel pos carry : Nat) (naf : Array Int), 256 ≤ pos + fuel → NafInv n w pos carry naf →
      ∃ pos' carry', 256 ≤ pos' ∧ NafInv n w pos' carry' (nafLoopZ n w fuel pos carry naf)
  | 0, pos, carry, naf, hf, h => ⟨pos, carry, by omega, h⟩
  | fuel + 1, pos, carry, naf, hf, h => by
    unfold nafLoopZ
    by_cases hpos : pos < 256
    · simp only [hpos, if_true]
      by_cases heven : (carry + n / 2 ^ pos % 2 ^ w) % 2 = 0
      · simp only [heven, if_true]
        exact nafLoopZ_inv n w hn hw fuel _ _ _ (by omega) (nafInv_even n w pos carry naf hn hw h heven)
      · simp only [heven, if_false]
        by_cases hsmall : carry + n / 2 ^ pos % 2 ^ w < 2 ^ w / 2
        · simp only [hsmall, if_true]
          exact nafLoopZ_inv n w hn hw fuel _ _ _ (by omega) (nafInv_small n w pos carry naf hw hpos h heven hsmall)
        · simp only [hsmall, if_false]
          exact nafLoopZ_inv n w hn hw fuel _ _ _ (by omega) (nafInv_big n w pos carry naf hn hw hpos h heven hsmall)
    · simp only [hpos, if_false]
      exact ⟨pos, carry, by omega, h⟩

def naf (w n : Nat) : Array Int := nafLoop n w 256 0 0 (Array.replicate 256 0)

theorem nonAdjacentForm_eq (w n : Nat) (hw : 2 ≤ w ∧ w ≤ 8) : nonAdjacentForm w n = some (naf w n) := by
  unfold nonAdjacentForm naf
  have : ¬ (w < 2 ∨ w > 8) := by omega
  simp [this]

theorem naf_exact (w n : Nat) (hw : w ≤ 8) (hn : n < 2 ^ 256) :
    naf w n = nafLoopZ n w 256 0 0 (Array.replicate 256 0) :=
  nafLoop_exact n w hn hw 256 0 0 _ (by omega)

theorem naf_inv (w n : Nat) (hw : 2 ≤ w ∧ w ≤ 8) (hn : n < 2 ^ 255) :
    ∃ pos', 256 ≤ pos' ∧ NafInv n w pos' 0 (naf w n) := by
  rw [naf_exact w n hw.2 (by omega)]
  obtain ⟨pos', carry', hp, hinv⟩ := nafLoopZ_inv n w hn hw.1 256 0 0 _ (by omega) (nafInv_init n w)
  obtain rfl := hinv.carry_end hp
  exact ⟨pos', hp, hinv⟩

end Voi.Props.C17

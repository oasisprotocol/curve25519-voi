/-
C17, Scalar.Bits: the 256 output bytes are the binary digits of the scalar.
-/
import Voi.Props.C17.Basic

namespace Voi.Props.C17
open Voi.Model.Recoding

/-- `(s.inner[i>>3] >> (i&7)) & 1` is bit `i` of `n` -/
theorem bit_extract (n i : Nat) : byteAt n (i / 8) / 2 ^ (i % 8) % 2 = n / 2 ^ i % 2 := by
  have h := byteAt_field n (i / 8) (i % 8) 1 (by omega)
  rwa [pow_one, Nat.div_add_mod] at h

theorem bitsLoop_inv (n : Nat) : ∀ (fuel i : Nat) (out : Array Int),
    i + fuel = 256 → Filled (fun j => ((n / 2 ^ j % 2 : Nat) : Int)) 256 i out →
      Filled (fun j => ((n / 2 ^ j % 2 : Nat) : Int)) 256 256 (bitsLoop n fuel i out)
  | 0, i, out, hf, h => by
    obtain rfl : i = 256 := by omega
    exact h
  | fuel + 1, i, out, hf, h =>
    bitsLoop_inv n fuel (i + 1) _ (by omega) (h.set (by omega) _ (by rw [bit_extract]; rfl))

theorem bits_inv (n : Nat) : Filled (fun j => ((n / 2 ^ j % 2 : Nat) : Int)) 256 256 (bits n) :=
  bitsLoop_inv n 256 0 _ rfl (Filled.init _ 256)

theorem bits_digit (n i : Nat) (hi : i < 256) : dig (bits n) i = ((n / 2 ^ i % 2 : Nat) : Int) :=
  (bits_inv n).done i hi

theorem bits_01 (n i : Nat) : dig (bits n) i = 0 ∨ dig (bits n) i = 1 := by
  by_cases hi : i < 256
  · rw [bits_digit n i hi]; omega
  · exact Or.inl ((bits_inv n).rest i (by omega))

theorem bits_size (n : Nat) : (bits n).size = 256 := (bits_inv n).size

theorem bits_sum (n : Nat) : sumD 1 (dig (bits n)) 256 = ((n % 2 ^ 256 : Nat) : Int) := by
  have := sumD_digits 1 n 256
  simp only [Nat.one_mul, pow_one] at this
  rw [← this]
  exact sumD_congr 1 _ _ 256 (bits_digit n)

end Voi.Props.C17

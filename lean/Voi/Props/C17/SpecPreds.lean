/-
C17: the boolean range predicates of `Voi.Model.Recoding` (`bitsOk`, `nafShapeOk`, `r16Ok`, `r2wOk`, evaluated by
the driver on every R1 request) follow from index-wise facts about `dig`.
-/
import Voi.Props.C17.Basic

namespace Voi.Props.C17
open Voi.Model.Recoding

theorem all_of_getD (p : Int → Bool) (l : List Int) (h : ∀ i, i < l.length → p (l.getD i 0) = true) :
    l.all p = true := by
  rw [List.all_eq_true]
  intro x hx
  obtain ⟨i, hi, rfl⟩ := List.mem_iff_getElem.1 hx
  simpa [hi] using h i hi

theorem all_take_of_getD (p : Int → Bool) (l : List Int) (k : Nat)
    (h : ∀ i, i < k → i < l.length → p (l.getD i 0) = true) : (l.take k).all p = true := by
  rw [List.all_eq_true]
  intro x hx
  obtain ⟨i, hi, rfl⟩ := List.mem_take_iff_getElem.1 hx
  have hi' : i < k ∧ i < l.length := by omega
  simpa [hi'.2] using h i hi'.1 hi'.2

theorem all_drop_of_getD (p : Int → Bool) (l : List Int) (k : Nat)
    (h : ∀ i, k ≤ i → i < l.length → p (l.getD i 0) = true) : (l.drop k).all p = true := by
  rw [List.all_eq_true]
  intro x hx
  obtain ⟨i, hi, rfl⟩ := List.mem_drop_iff_getElem.1 hx
  have hi' : k + i < l.length := by omega
  simpa [hi'] using h (k + i) (by omega) hi'

theorem getD_drop (l : List Int) (k i : Nat) : (l.drop k).getD i 0 = l.getD (k + i) 0 := by
  simp [List.getD_eq_getElem?_getD, List.getElem?_drop]

theorem bitsOk_of (a : Array Int) (hs : a.size = 256) (h : ∀ i, dig a i = 0 ∨ dig a i = 1) :
    bitsOk a.toList = true := by
  unfold bitsOk
  rw [Bool.and_eq_true]
  refine ⟨by simp [hs], all_of_getD _ _ ?_⟩
  intro i _
  rw [dig_toList]
  rcases h i with e | e <;> rw [e] <;> decide

theorem nafShapeOk_list (w : Nat) : ∀ (l : List Int),
    (∀ i, l.getD i 0 ≠ 0 → l.getD i 0 % 2 = 1 ∧ (l.getD i 0).natAbs < 2 ^ (w - 1) ∧
      ∀ j, i < j → j < i + w → l.getD j 0 = 0) → nafShapeOk w l = true
  | [], _ => rfl
  | d :: ds, h => by
    unfold nafShapeOk
    rw [Bool.and_eq_true]
    constructor
    · by_cases hd : d = 0
      · simp [hd]
      · obtain ⟨h1, h2, h3⟩ := h 0 (by simpa using hd)
        have h1' : d % 2 = 1 := by simpa using h1
        have h2' : d.natAbs < 2 ^ (w - 1) := by simpa using h2
        have h3' : (ds.take (w - 1)).all (· == 0) = true := by
          apply all_take_of_getD
          intro i hi _
          have := h3 (i + 1) (by omega) (by omega)
          simpa using this
        simp [h1', h2', h3']
    · apply nafShapeOk_list w ds
      intro i hi
      obtain ⟨h1, h2, h3⟩ := h (i + 1) (by simpa using hi)
      refine ⟨by simpa using h1, by simpa using h2, ?_⟩
      intro j hj1 hj2
      simpa using h3 (j + 1) (by omega) (by omega)

theorem nafShapeOk_of (w : Nat) (a : Array Int)
    (h : ∀ i, dig a i ≠ 0 → dig a i % 2 = 1 ∧ (dig a i).natAbs < 2 ^ (w - 1) ∧
      ∀ j, i < j → j < i + w → dig a j = 0) : nafShapeOk w a.toList = true :=
  nafShapeOk_list w a.toList (by simpa only [dig_toList] using h)

theorem r16Ok_of (a : Array Int) (hs : a.size = 64)
    (h1 : ∀ i, i < 63 → -8 ≤ dig a i ∧ dig a i < 8) (h2 : 0 ≤ dig a 63 ∧ dig a 63 ≤ 8) :
    r16Ok a.toList = true := by
  unfold r16Ok
  rw [Bool.and_eq_true, Bool.and_eq_true]
  refine ⟨⟨by simp [hs], all_take_of_getD _ _ _ ?_⟩, all_drop_of_getD _ _ _ ?_⟩
  · intro i hi _
    rw [dig_toList]
    have := h1 i hi
    simp [this.1, this.2]
  · intro i hi hl
    have : i = 63 := by simp [hs] at hl; omega
    subst this
    rw [dig_toList]
    simp [h2.1, h2.2]

theorem r2wOk_of (w : Nat) (a : Array Int) (hw : w = 6 ∨ w = 7 ∨ w = 8) (hs : a.size = 43)
    (hint : ∀ j, j < terminalIdx w → -(2 ^ (w - 1) : Int) ≤ dig a j ∧ dig a j < 2 ^ (w - 1))
    (hterm : 0 ≤ dig a (terminalIdx w) ∧ dig a (terminalIdx w) ≤ 2 ^ (w - 1))
    (hzero : ∀ j, terminalIdx w + 1 ≤ j → dig a j = 0) : r2wOk w a.toList = true := by
  unfold r2wOk
  -- `interior` in `r2wOk` is `terminalIdx w` written out
  simp only [← show terminalIdx w = if w = 8 then digitsCount w else digitsCount w - 1 from rfl,
    toRadix2wSizeHint_eq hw, Option.getD_some]
  simp only [Bool.and_eq_true]
  refine ⟨⟨⟨⟨by simp [hs], all_take_of_getD _ _ _ ?_⟩, all_take_of_getD _ _ _ ?_⟩,
    all_drop_of_getD _ _ _ ?_⟩, all_drop_of_getD _ _ _ ?_⟩
  · intro i hi _
    rw [dig_toList]
    have := hint i hi
    simp [this.1, this.2]
  · intro i hi _
    have : i = 0 := by omega
    subst this
    rw [getD_drop, dig_toList]
    simp [hterm.1, hterm.2]
  · intro i hi _
    rw [dig_toList, hzero i hi]; rfl
  · intro i hi _
    rw [dig_toList, hzero i hi]; rfl

end Voi.Props.C17

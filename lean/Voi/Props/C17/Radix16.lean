/-
C17, Scalar.ToRadix16.

Step 1 (`nibbleLoop`) writes the 64 nibbles of the 32 bytes; step 2 (`recenterLoop`) pushes a carry through
positions 0..62.  No `int8` conversion changes a value, for any input (`R16Inv`, `toRadix16_exact`), so the result
reconstructs `n mod 2^256` for every `n`; only the range of the last digit depends on the size of the scalar: `[0, 8]`
below 2^255, `[0, 16]` in general.
-/
import Voi.Props.C17.Basic

namespace Voi.Props.C17
open Voi.Model.Recoding

/-- what step 1 leaves at position `k` -/
def nib (n k : Nat) : Nat := n / 2 ^ (4 * k) % 2 ^ 4

theorem nib_lt (n k : Nat) : nib n k < 16 := Nat.mod_lt _ (by decide)

theorem nib_lo (n i : Nat) : byteAt n i / 2 ^ 0 % 16 = nib n (2 * i) := by
  rw [nib, show 4 * (2 * i) = 8 * i + 0 by omega]
  exact byteAt_field n i 0 4 (by omega)

theorem nib_hi (n i : Nat) : byteAt n i / 2 ^ 4 % 16 = nib n (2 * i + 1) := by
  rw [nib, show 4 * (2 * i + 1) = 8 * i + 4 by omega]
  exact byteAt_field n i 4 4 (by omega)

theorem nibbleLoop_inv (n : Nat) : ∀ (fuel i : Nat) (out : Array Int), i + fuel = 32 →
    Filled (fun k => (nib n k : Int)) 64 (2 * i) out →
      Filled (fun k => (nib n k : Int)) 64 64 (nibbleLoop n fuel i out)
  | 0, i, out, hf, h => by
    obtain rfl : i = 32 := by omega
    exact h
  | fuel + 1, i, out, hf, h => by
    have wr : ∀ k, wrap8 (Int.ofNat (nib n k)) = (nib n k : Int) := fun k => by
      have := nib_lt n k
      exact wrap8_id _ (by simp only [Int.ofNat_eq_natCast]; omega) (by simp only [Int.ofNat_eq_natCast]; omega)
    exact nibbleLoop_inv n fuel (i + 1) _ (by omega)
      ((h.set (by omega) _ (by rw [nib_lo, wr])).set (by omega) _ (by rw [nib_hi, wr]))

theorem nibbles_inv (n : Nat) : Filled (fun k => (nib n k : Int)) 64 64 (nibbleLoop n 32 0 (Array.replicate 64 0)) :=
  nibbleLoop_inv n 32 0 _ rfl (Filled.init _ 64)

/-- `recenterLoop` without `wrap8` -/
def recenterLoopZ : (fuel i : Nat) → Array Int → Array Int
  | 0, _, out => out
  | fuel + 1, i, out =>
    let carry := (out.getD i 0 + 8) / 16
    let out := out.setIfInBounds i (out.getD i 0 - carry * 16)
    let out := out.setIfInBounds (i + 1) (out.getD (i + 1) 0 + carry)
    recenterLoopZ fuel (i + 1) out

/-- The carry into position `i` is not a loop variable: the step before has added it to `out[i]` already. -/
structure R16Inv (n i : Nat) (out : Array Int) : Prop where
  size : out.size = 64
  done : ∀ k, k < i → -8 ≤ dig out k ∧ dig out k < 8
  /-- the current position holds its nibble plus the incoming carry -/
  cur : dig out i = (nib n i : Int) ∨ dig out i = (nib n i : Int) + 1
  rest : ∀ k, i < k → k < 64 → dig out k = (nib n k : Int)
  value : sumD 4 (dig out) 64 = ((n % 2 ^ 256 : Nat) : Int)

theorem r16Inv_init (n : Nat) : R16Inv n 0 (nibbleLoop n 32 0 (Array.replicate 64 0)) := by
  have h := nibbles_inv n
  refine ⟨h.size, fun k hk => by omega, Or.inl (h.done 0 (by omega)), fun k _ hk => h.done k hk, ?_⟩
  rw [← show 4 * 64 = 256 from rfl, ← sumD_digits 4 n 64]
  exact sumD_congr 4 _ _ 64 h.done

theorem R16Inv.cur_range {n i : Nat} {out : Array Int} (h : R16Inv n i out) : 0 ≤ dig out i ∧ dig out i ≤ 16 := by
  have := nib_lt n i
  rcases h.cur with e | e <;> rw [e] <;> omega

theorem R16Inv.next {n i : Nat} {out : Array Int} (h : R16Inv n i out) (hi : i < 63) (v : Int) :
    dig (out.setIfInBounds i v) (i + 1) = (nib n (i + 1) : Int) := by
  rw [dig_set_ne _ _ _ _ (by omega)]; exact h.rest (i + 1) (by omega) (by omega)

/-- the `int8` conversions of one recentring step are the identity: `x ∈ [0, 16]` is the current digit (its nibble
    plus the incoming carry), `y ∈ [0, 15]` the next nibble -/
theorem recenter_wrap (x y : Int) (hx0 : 0 ≤ x) (hx : x ≤ 16) (hy0 : 0 ≤ y) (hy : y ≤ 15) :
    wrap8 (x + 8) / 16 = (x + 8) / 16 ∧
    wrap8 (x - wrap8 ((x + 8) / 16 * 16)) = x - (x + 8) / 16 * 16 ∧
    wrap8 (y + (x + 8) / 16) = y + (x + 8) / 16 := by
  unfold wrap8; omega

/-- the step at `i` as it acts under the invariant: position `i + 1` gets its nibble plus the carry, whatever `out`
    holds there -/
def recenterStep (n i : Nat) (out : Array Int) : Array Int :=
  let c := (dig out i + 8) / 16
  (out.setIfInBounds i (dig out i - c * 16)).setIfInBounds (i + 1) ((nib n (i + 1) : Int) + c)

/-- both loops take that step -/
theorem recenterLoop_succ {n i : Nat} {out : Array Int} (h : R16Inv n i out) (hi : i < 63) (fuel : Nat) :
    recenterLoop (fuel + 1) i out = recenterLoop fuel (i + 1) (recenterStep n i out) ∧
    recenterLoopZ (fuel + 1) i out = recenterLoopZ fuel (i + 1) (recenterStep n i out) := by
  have hnib1 := nib_lt n (i + 1)
  obtain ⟨w1, w2, w3⟩ := recenter_wrap (dig out i) (nib n (i + 1)) h.cur_range.1 h.cur_range.2 (by omega) (by omega)
  constructor
  · rw [recenterLoop]
    simp only [getD_eq_dig, w1, w2, h.next hi, w3]
    rfl
  · rw [recenterLoopZ]
    simp only [getD_eq_dig, h.next hi]
    rfl

theorem R16Inv.step {n i : Nat} {out : Array Int} (h : R16Inv n i out) (hi : i < 63) :
    R16Inv n (i + 1) (recenterStep n i out) := by
  have hx := h.cur_range
  have hsz : i < out.size := by rw [h.size]; omega
  have hsz1 : ∀ v, i + 1 < (out.setIfInBounds i v).size := fun v => by simp [h.size]; omega
  have hc : -8 ≤ dig out i - (dig out i + 8) / 16 * 16 ∧ dig out i - (dig out i + 8) / 16 * 16 < 8 ∧
      ((dig out i + 8) / 16 = 0 ∨ (dig out i + 8) / 16 = 1) := by omega
  unfold recenterStep
  refine ⟨by simp [h.size], fun k hk => ?_, ?_, fun k hk1 hk2 => ?_, ?_⟩
  · rw [dig_set_ne _ _ _ _ (by omega)]
    by_cases hki : k = i
    · subst hki
      rw [dig_set_self _ _ _ hsz]; exact ⟨hc.1, hc.2.1⟩
    · rw [dig_set_ne _ _ _ _ hki]; exact h.done k (by omega)
  · rw [dig_set_self _ _ _ (hsz1 _)]
    rcases hc.2.2 with e | e <;> rw [e] <;> simp
  · rw [dig_set_ne _ _ _ _ (by omega), dig_set_ne _ _ _ _ (by omega)]; exact h.rest k (by omega) hk2
  · -- `-16·c` at weight `16^i` and `c` at weight `16^(i+1)` cancel
    rw [sumD_set 4 _ (i + 1) _ 64 (hsz1 _) (by omega), h.next hi, sumD_set 4 out i _ 64 hsz (by omega), h.value,
      pow_mul_succ]
    ring

/-- Exactness and invariant in one induction, unlike NAF and radix-2^w: that a step's `int8` conversions change nothing
    (`recenter_wrap`) rests on `cur` and `rest` of the invariant. -/
theorem recenterLoop_exact_inv (n : Nat) : ∀ (fuel i : Nat) (out : Array Int),
    i + fuel = 63 → R16Inv n i out →
      recenterLoop fuel i out = recenterLoopZ fuel i out ∧ R16Inv n 63 (recenterLoop fuel i out)
  | 0, i, out, hf, h => by
    obtain rfl : i = 63 := by omega
    exact ⟨rfl, h⟩
  | fuel + 1, i, out, hf, h => by
    obtain ⟨he, heZ⟩ := recenterLoop_succ h (by omega) fuel
    rw [he, heZ]
    exact recenterLoop_exact_inv n fuel (i + 1) _ (by omega) (h.step (by omega))

theorem toRadix16_inv (n : Nat) : R16Inv n 63 (toRadix16 n) :=
  (recenterLoop_exact_inv n 63 0 _ rfl (r16Inv_init n)).2

theorem toRadix16_exact (n : Nat) :
    toRadix16 n = recenterLoopZ 63 0 (nibbleLoop n 32 0 (Array.replicate 64 0)) :=
  (recenterLoop_exact_inv n 63 0 _ rfl (r16Inv_init n)).1

end Voi.Props.C17

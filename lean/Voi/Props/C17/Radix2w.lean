/-
C17, Scalar.ToRadix2w(w), w ∈ {6, 7, 8}, and ToRadix2wSizeHint: the loop with 64-bit word windows, `uint64` shifts and
`int8` conversion equals `r2wLoopZ`, which reads bits `w·i .. w·i+w-1` of `n` directly and stores `coef - carry'·2^w`
over ℤ (`r2wLoop_exact`); `R2wInv` is the invariant of that loop; placing the terminal carry is one more step of the same
recoding (w = 8) or changes nothing (`r2wInv_terminal`).
-/
import Voi.Props.C17.Basic

namespace Voi.Props.C17
open Voi.Model.Recoding

def r2wLoopZ (n w : Nat) : (fuel i carry : Nat) → Array Int → Array Int × Nat
  | 0, _, carry, digits => (digits, carry)
  | fuel + 1, i, carry, digits =>
    let coef := carry + n / 2 ^ (i * w) % 2 ^ w
    let carry' := (coef + 2 ^ w / 2) / 2 ^ w
    r2wLoopZ n w fuel (i + 1) carry' (digits.setIfInBounds i ((coef : Int) - (carry' : Int) * 2 ^ w))

def r2wTerminalZ (w : Nat) (digits : Array Int) (carry : Nat) : Array Int :=
  let dc := digitsCount w
  if w = 8 then digits.setIfInBounds dc (digits.getD dc 0 + (carry : Int))
  else digits.setIfInBounds (dc - 1) (digits.getD (dc - 1) 0 + (carry : Int) * 2 ^ w)

theorem mem_678 {w : Nat} (hw : w = 6 ∨ w = 7 ∨ w = 8) : w ∈ [6, 7, 8] := by simpa using hw

/-- for `coef = carry + window ≤ 2^w`; the second conjunct: `carry << w` does not overflow `uint64` and the `int8`
    conversion is the identity -/
theorem r2w_digit (w coef : Nat) (hw : w = 6 ∨ w = 7 ∨ w = 8) (hc : coef ≤ 2 ^ w) :
    let carry' := (coef + 2 ^ w / 2) / 2 ^ w
    carry' ≤ 1 ∧
    wrap8 (Int.ofNat coef - Int.ofNat (shl64 carry' w)) = (coef : Int) - (carry' : Int) * 2 ^ w ∧
    -(2 ^ (w - 1) : Int) ≤ (coef : Int) - (carry' : Int) * 2 ^ w ∧
    (coef : Int) - (carry' : Int) * 2 ^ w < 2 ^ (w - 1) := by
  intro carry'
  rcases hw with rfl | rfl | rfl <;>
  · have h1 : carry' ≤ 1 := by simp only [carry']; omega
    refine ⟨h1, ?_, ?_, ?_⟩
    · simp only [wrap8, shl64, Int.ofNat_eq_natCast]; omega
    · omega
    · omega

theorem r2wLoop_exact (n w : Nat) (hn : n < 2 ^ 256) (hw : w = 6 ∨ w = 7 ∨ w = 8) :
    ∀ (fuel i carry : Nat) (digits : Array Int), i + fuel = digitsCount w → carry ≤ 1 →
      r2wLoop n w fuel i carry digits = r2wLoopZ n w fuel i carry digits
  | 0, _, _, _, _, _ => rfl
  | fuel + 1, i, carry, digits, hf, hc => by
    unfold r2wLoop r2wLoopZ
    rw [r2wBitBuf_mod n w (i * w) hn (by omega) (radix2w_word_index w (mem_678 hw) i (by omega))]
    obtain ⟨h1, h2, _, _⟩ := r2w_digit w (carry + n / 2 ^ (i * w) % 2 ^ w) hw (by omega)
    simp only [shr64] at h1 h2 ⊢
    rw [h2]
    exact r2wLoop_exact n w hn hw fuel (i + 1) _ _ (by omega) h1

structure R2wInv (n w i carry : Nat) (digits : Array Int) : Prop extends Carried n w 43 i carry digits where
  range : ∀ j, j < i → -(2 ^ (w - 1) : Int) ≤ dig digits j ∧ dig digits j < 2 ^ (w - 1)
  /-- the digit written last, which the terminal step has to bound (`i = j + 1` and not `j = i - 1`: there is no such
      digit at `i = 0`) -/
  last : ∀ j, i = j + 1 → ∃ c : Nat, c ≤ 1 ∧
    dig digits j + (carry : Int) * 2 ^ w = (c : Int) + ((n / 2 ^ (w * j) % 2 ^ w : Nat) : Int)

theorem r2wInv_init (n w : Nat) : R2wInv n w 0 0 (Array.replicate 43 0) where
  toCarried := Carried.init n w 43
  range := fun j hj => by omega
  last := fun j hj => by omega

theorem R2wInv.store {n w i carry : Nat} {digits : Array Int} (h : R2wInv n w i carry digits) (hi : i < 43)
    (d : Int) (c' : Nat) (hc' : c' ≤ 1) (hlo : -(2 ^ (w - 1) : Int) ≤ d) (hhi : d < 2 ^ (w - 1))
    (hd : d + (c' : Int) * 2 ^ w = (carry : Int) + ((n / 2 ^ (w * i) % 2 ^ w : Nat) : Int)) :
    R2wInv n w (i + 1) c' (digits.setIfInBounds i d) := by
  have hsz : i < digits.size := by rw [h.size]; exact hi
  refine ⟨h.toCarried.store hi 1 (by omega) d c' hc' (by rw [Nat.mul_one]; exact hd), fun j hj => ?_, fun j hj => ?_⟩
  · by_cases hji : j = i
    · subst hji; rw [dig_set_self _ _ _ hsz]; exact ⟨hlo, hhi⟩
    · rw [dig_set_ne _ _ _ _ hji]; exact h.range j (by omega)
  · obtain rfl : j = i := by omega
    rw [dig_set_self _ _ _ hsz]; exact ⟨carry, h.carry_le, hd⟩

theorem r2wInv_step (n w i carry : Nat) (digits : Array Int) (hw : w = 6 ∨ w = 7 ∨ w = 8) (hi : i < digitsCount w)
    (h : R2wInv n w i carry digits) :
    let coef := carry + n / 2 ^ (i * w) % 2 ^ w
    let carry' := (coef + 2 ^ w / 2) / 2 ^ w
    R2wInv n w (i + 1) carry' (digits.setIfInBounds i ((coef : Int) - (carry' : Int) * 2 ^ w)) := by
  intro coef carry'
  have hc := h.carry_le
  obtain ⟨h2, _, h4, h5⟩ := r2w_digit w coef hw (by simp only [coef]; omega)
  have hdc := (radix2w_digit_index w (mem_678 hw)).1
  exact h.store (by omega) _ carry' h2 h4 h5 (by rw [Nat.mul_comm w i]; push_cast [coef]; ring)

theorem r2wLoopZ_inv (n w : Nat) (hw : w = 6 ∨ w = 7 ∨ w = 8) :
    ∀ (fuel i carry : Nat) (digits : Array Int), i + fuel = digitsCount w → R2wInv n w i carry digits →
      R2wInv n w (digitsCount w) (r2wLoopZ n w fuel i carry digits).2 (r2wLoopZ n w fuel i carry digits).1
  | 0, i, carry, digits, hf, h => by
    obtain rfl : i = digitsCount w := by omega
    exact h
  | fuel + 1, i, carry, digits, hf, h => by
    unfold r2wLoopZ
    exact r2wLoopZ_inv n w hw fuel (i + 1) _ _ (by omega) (r2wInv_step n w i carry digits hw (by omega) h)

structure R2wFinal (n w : Nat) (a : Array Int) : Prop where
  size : a.size = 43
  value : sumD w (dig a) 43 = (n : Int)
  interior : ∀ j, j < terminalIdx w → -(2 ^ (w - 1) : Int) ≤ dig a j ∧ dig a j < 2 ^ (w - 1)
  terminal : 0 ≤ dig a (terminalIdx w) ∧
    dig a (terminalIdx w) ≤ (if w = 8 then 1 else ((n / 2 ^ 252 : Nat) : Int) + 1)
  beyond : ∀ j, terminalIdx w < j → dig a j = 0

/-- The terminal carry.  For `w = 8` the 32 windows end at bit 256, and the carry is stored as one more digit, whose
    window is empty.  For `w = 6, 7` the last window starts at bit 252 and holds four bits: it leaves no carry, and
    adding `int8(0 << w)` to the last digit changes nothing. -/
theorem r2wInv_terminal (n w carry : Nat) (digits : Array Int) (hn : n < 2 ^ 256) (hw : w = 6 ∨ w = 7 ∨ w = 8)
    (h : R2wInv n w (digitsCount w) carry digits) :
    r2wTerminal w digits carry = r2wTerminalZ w digits carry ∧
    R2wInv n w (terminalIdx w + 1) 0 (r2wTerminalZ w digits carry) := by
  have hc := h.carry_le
  obtain ⟨_, hdc8, hdc1⟩ := radix2w_digit_index w (mem_678 hw)
  unfold r2wTerminal r2wTerminalZ terminalIdx
  by_cases h8 : w = 8
  · subst h8
    have hwin : n / 2 ^ (8 * digitsCount 8) % 2 ^ 8 = 0 := by
      rw [show 8 * digitsCount 8 = 256 from rfl, Nat.div_eq_of_lt hn, Nat.zero_mod]
    simp only [if_true, getD_eq_dig, h.rest _ (Nat.le_refl _), Int.ofNat_eq_natCast, zero_add]
    rw [wrap8_id (carry : Int) (by omega) (by omega), wrap8_id (carry : Int) (by omega) (by omega)]
    exact ⟨rfl, h.store (hdc8 rfl) _ 0 (by omega) (by omega) (by omega) (by rw [hwin]; simp)⟩
  · have hw : w = 6 ∨ w = 7 := by omega
    have h252 : w * (digitsCount w - 1) = 252 := by rcases hw with rfl | rfl <;> rfl
    obtain ⟨c, hc1, hlast⟩ := h.last (digitsCount w - 1) (by omega)
    obtain ⟨hlo, hhi⟩ := h.range (digitsCount w - 1) (by omega)
    have hq := div_pow_lt n 256 252 4 hn (by omega)
    rw [h252] at hlast
    -- the last digit is at least `-2^(w-1)` and, with the carry, at most `1 + 15`
    obtain rfl : carry = 0 := by rcases hw with rfl | rfl <;> omega
    simp only [h8, if_false, shl64, Nat.zero_mod, Int.ofNat_eq_natCast, Nat.cast_zero, zero_mul, getD_eq_dig]
    rw [wrap8_id 0 (by omega) (by omega), add_zero, wrap8_id _ (by rcases hw with rfl | rfl <;> omega)
      (by rcases hw with rfl | rfl <;> omega), ← getD_eq_dig, setIfInBounds_getD_self, Nat.sub_add_cancel hdc1]
    exact ⟨rfl, h⟩

theorem R2wInv.final {n w : Nat} {a : Array Int} (hn : n < 2 ^ 256) (hw : w = 6 ∨ w = 7 ∨ w = 8)
    (h : R2wInv n w (terminalIdx w + 1) 0 a) : R2wFinal n w a where
  size := h.size
  value := h.toCarried.value_eq rfl
    (hn.trans_le (Nat.pow_le_pow_right (by decide) (by rcases hw with rfl | rfl | rfl <;> decide)))
  interior := fun j hj => h.range j (by omega)
  terminal := by
    obtain ⟨c, hc, hlast⟩ := h.last _ rfl
    rw [Nat.cast_zero, zero_mul, add_zero] at hlast
    by_cases h8 : w = 8
    · -- the window of the extra digit starts at bit 256
      subst h8
      rw [show 8 * terminalIdx 8 = 256 from rfl, Nat.div_eq_of_lt hn] at hlast
      simp only [if_true]; omega
    · -- the last window starts at bit 252
      have ht : w * terminalIdx w = 252 := by
        rcases hw with rfl | rfl | rfl
        · rfl
        · rfl
        · exact absurd rfl h8
      have := Nat.mod_le (n / 2 ^ 252) (2 ^ w)
      rw [ht] at hlast
      simp only [h8, if_false]; omega
  beyond := fun j hj => h.rest j hj

def radix2w (w n : Nat) : Array Int :=
  let r := r2wLoop n w (digitsCount w) 0 0 (Array.replicate 43 0)
  r2wTerminal w r.1 r.2

def radix2wZ (w n : Nat) : Array Int :=
  let r := r2wLoopZ n w (digitsCount w) 0 0 (Array.replicate 43 0)
  r2wTerminalZ w r.1 r.2

theorem toRadix2w_eq (w n : Nat) (hw : w = 6 ∨ w = 7 ∨ w = 8) : toRadix2w w n = some (radix2w w n) := by
  unfold toRadix2w radix2w toRadix2wSizeHint
  rcases hw with rfl | rfl | rfl <;> simp

theorem radix2w_exact_final (w n : Nat) (hw : w = 6 ∨ w = 7 ∨ w = 8) (hn : n < 2 ^ 256) :
    radix2w w n = radix2wZ w n ∧ R2wFinal n w (radix2w w n) := by
  unfold radix2w radix2wZ
  simp only
  rw [r2wLoop_exact n w hn hw _ 0 0 _ (by omega) (by omega)]
  obtain ⟨he, hinv⟩ := r2wInv_terminal n w _ _ hn hw
    (r2wLoopZ_inv n w hw (digitsCount w) 0 0 _ (by omega) (r2wInv_init n w))
  rw [he]
  exact ⟨rfl, hinv.final hn hw⟩

end Voi.Props.C17

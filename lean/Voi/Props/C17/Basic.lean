/-
C17, what the recoding proofs share: digit arrays read as functions (`dig a i`, 0 outside the array), their weighted
sums (`sumD r f k = Σ_{i<k} f i · 2^(r·i)`), the bits `n / 2^p % 2^k` of the scalar, and the two states a recoding loop
can be in: `Filled` when the digits are known in advance, `Carried` when digits and a carry account for the low bits.
-/
import Voi.Model.Recoding
import Mathlib.Tactic.Ring
import Mathlib.Tactic.Abel
import Mathlib.Tactic.LinearCombination

namespace Voi.Props.C17
open Voi.Model.Recoding

theorem getD_setIfInBounds {α : Type} (a : Array α) (i : Nat) (v d : α) (j : Nat) :
    (a.setIfInBounds i v).getD j d = if j = i ∧ i < a.size then v else a.getD j d := by
  rw [Array.getD_eq_getD_getElem?, Array.getD_eq_getD_getElem?, Array.getElem?_setIfInBounds]
  by_cases hij : i = j
  · subst hij
    by_cases hi : i < a.size <;> simp [hi]
  · have : ¬ j = i := fun h => hij h.symm
    simp [hij, this]

theorem setIfInBounds_getD_self {α : Type} (a : Array α) (i : Nat) (d : α) : a.setIfInBounds i (a.getD i d) = a := by
  apply Array.ext (by simp)
  intro j h1 h2
  rw [Array.getElem_setIfInBounds]
  split
  · subst_vars; simp [Array.getD, h2]
  · rfl

theorem getD_replicate {α : Type} (n j : Nat) (d : α) : (Array.replicate n d).getD j d = d := by
  rw [Array.getD_eq_getD_getElem?, Array.getElem?_replicate]
  split <;> rfl

theorem getD_toList {α : Type} (a : Array α) (i : Nat) (d : α) : a.toList.getD i d = a.getD i d := by
  simp [Array.getD_eq_getD_getElem?, List.getD_eq_getElem?_getD]

/-- `Σ_{j<n} f j`, by the recursion the loops follow (`k ↦ k + 1`); `Finset.sum` would add an import and a bridge to every
    induction -/
def rsum {G : Type} [AddCommGroup G] (f : Nat → G) : Nat → G
  | 0 => 0
  | n + 1 => rsum f n + f n

section rsum
variable {G : Type} [AddCommGroup G]

theorem rsum_zero (f : Nat → G) : ∀ n, (∀ j, j < n → f j = 0) → rsum f n = 0
  | 0, _ => rfl
  | n + 1, h => by
    show rsum f n + f n = 0
    rw [rsum_zero f n (fun j hj => h j (by omega)), h n (by omega), add_zero]

theorem rsum_update (f g : Nat → G) (b : Nat) (h : ∀ j, j ≠ b → g j = f j) :
    ∀ n, rsum g n = rsum f n + (if b < n then g b - f b else 0)
  | 0 => by simp [rsum]
  | n + 1 => by
    show rsum g n + g n = rsum f n + f n + _
    rw [rsum_update f g b h n]
    rcases Nat.lt_trichotomy b n with hb | rfl | hb
    · rw [if_pos hb, if_pos (by omega), h n (by omega)]; abel
    · rw [if_neg (by omega), if_pos (by omega)]; abel
    · rw [if_neg (by omega), if_neg (by omega), h n (by omega)]; abel

end rsum

theorem pow_mul_succ {M : Type} [Monoid M] (a : M) (r i : Nat) : a ^ (r * (i + 1)) = a ^ (r * i) * a ^ r := by
  rw [Nat.mul_succ, pow_add]

def dig (a : Array Int) (i : Nat) : Int := a.getD i 0

/-- the models read with `getD · 0`; the theorems say `dig` -/
theorem getD_eq_dig (a : Array Int) (i : Nat) : a.getD i 0 = dig a i := rfl

def sumD (r : Nat) (f : Nat → Int) : Nat → Int
  | 0 => 0
  | k + 1 => sumD r f k + f k * 2 ^ (r * k)

theorem dig_eq_getElem (a : Array Int) (i : Nat) (h : i < a.size) : dig a i = a[i] := by
  simp [dig, Array.getD, h]

theorem dig_of_size_le (a : Array Int) (i : Nat) (h : a.size ≤ i) : dig a i = 0 := by
  have : ¬ i < a.size := by omega
  simp [dig, Array.getD, this]

theorem dig_set (a : Array Int) (i : Nat) (v : Int) (j : Nat) :
    dig (a.setIfInBounds i v) j = if j = i ∧ i < a.size then v else dig a j :=
  getD_setIfInBounds a i v 0 j

theorem dig_set_self (a : Array Int) (i : Nat) (v : Int) (h : i < a.size) :
    dig (a.setIfInBounds i v) i = v := by simp [dig_set, h]

theorem dig_set_ne (a : Array Int) (i : Nat) (v : Int) (j : Nat) (h : j ≠ i) :
    dig (a.setIfInBounds i v) j = dig a j := by simp [dig_set, h]

theorem dig_replicate (k i : Nat) : dig (Array.replicate k 0) i = 0 := getD_replicate k i 0

theorem dig_toList (a : Array Int) (i : Nat) : a.toList.getD i 0 = dig a i := getD_toList a i 0

theorem sumD_eq_rsum (r : Nat) (f : Nat → Int) : ∀ k, sumD r f k = rsum (fun i => f i * 2 ^ (r * i)) k
  | 0 => rfl
  | k + 1 => congrArg (· + f k * 2 ^ (r * k)) (sumD_eq_rsum r f k)

theorem sumD_congr (r : Nat) (f g : Nat → Int) : ∀ k, (∀ i, i < k → f i = g i) → sumD r f k = sumD r g k
  | 0, _ => rfl
  | k + 1, h => by
    simp only [sumD]
    rw [sumD_congr r f g k (fun i hi => h i (by omega)), h k (by omega)]

theorem sumD_zero (r : Nat) (f : Nat → Int) (k : Nat) (h : ∀ i, i < k → f i = 0) : sumD r f k = 0 := by
  rw [sumD_eq_rsum]
  exact rsum_zero _ k (fun i hi => by rw [h i hi, zero_mul])

theorem sumD_extend (r : Nat) (f : Nat → Int) (k : Nat) :
    ∀ K, k ≤ K → (∀ i, k ≤ i → i < K → f i = 0) → sumD r f K = sumD r f k
  | 0, hk, _ => by obtain rfl := Nat.le_zero.1 hk; rfl
  | K + 1, hk, h => by
    rcases Nat.lt_or_ge k (K + 1) with hlt | hge
    · show sumD r f K + f K * 2 ^ (r * K) = _
      rw [sumD_extend r f k K (by omega) (fun i h1 h2 => h i h1 (by omega)), h K (by omega) (by omega)]; simp
    · rw [Nat.le_antisymm hk hge]

theorem sumD_set (r : Nat) (a : Array Int) (i : Nat) (v : Int) (k : Nat) (hi : i < a.size) (hk : i < k) :
    sumD r (dig (a.setIfInBounds i v)) k = sumD r (dig a) k + (v - dig a i) * 2 ^ (r * i) := by
  rw [sumD_eq_rsum, sumD_eq_rsum, rsum_update _ _ i (fun j hj => by rw [dig_set_ne a i v j hj]), if_pos hk,
    dig_set_self a i v hi, sub_mul]

/-- state of a loop that fills an array from the bottom with digits known in advance -/
structure Filled (f : Nat → Int) (m k : Nat) (out : Array Int) : Prop where
  size : out.size = m
  done : ∀ j, j < k → dig out j = f j
  rest : ∀ j, k ≤ j → dig out j = 0

theorem Filled.init (f : Nat → Int) (m : Nat) : Filled f m 0 (Array.replicate m 0) :=
  ⟨by simp, fun j hj => by omega, fun j _ => dig_replicate m j⟩

theorem Filled.set {f : Nat → Int} {m k : Nat} {out : Array Int} (h : Filled f m k out) (hk : k < m)
    (v : Int) (hv : v = f k) : Filled f m (k + 1) (out.setIfInBounds k v) := by
  refine ⟨by simp [h.size], fun j hj => ?_, fun j hj => ?_⟩
  · by_cases hjk : j = k
    · subst hjk; rw [dig_set_self _ _ _ (by rw [h.size]; exact hk), hv]
    · rw [dig_set_ne _ _ _ _ hjk]; exact h.done j (by omega)
  · rw [dig_set_ne _ _ _ _ (by omega)]; exact h.rest j (by omega)

theorem sumD_shift (r : Nat) (f : Nat → Int) :
    ∀ k, sumD r f (k + 1) = f 0 + 2 ^ r * sumD r (fun i => f (i + 1)) k
  | 0 => by simp [sumD]
  | k + 1 => by
    show sumD r f (k + 1) + f (k + 1) * 2 ^ (r * (k + 1)) = _
    rw [sumD_shift r f k, pow_mul_succ]
    show _ = f 0 + 2 ^ r * (sumD r (fun i => f (i + 1)) k + f (k + 1) * 2 ^ (r * k))
    ring

theorem recon_list (r : Nat) : ∀ l : List Int, recon r l = sumD r (fun i => l.getD i 0) l.length
  | [] => rfl
  | d :: ds => by
    show d + 2 ^ r * recon r ds = sumD r (fun i => (d :: ds).getD i 0) (ds.length + 1)
    rw [sumD_shift, recon_list r ds]
    simp

theorem recon_toList (r : Nat) (a : Array Int) : recon r a.toList = sumD r (dig a) a.size := by
  rw [recon_list, Array.length_toList]
  exact sumD_congr r _ _ _ (fun i _ => dig_toList a i)

theorem recon_of_sumD {r m : Nat} {a : Array Int} {v : Int} (hs : a.size = m) (hv : sumD r (dig a) m = v) :
    recon r a.toList = v := by
  rw [recon_toList, hs, hv]

theorem sumD_digits (r n : Nat) :
    ∀ k, sumD r (fun i => ((n / 2 ^ (r * i) % 2 ^ r : Nat) : Int)) k = ((n % 2 ^ (r * k) : Nat) : Int)
  | 0 => by simp [sumD, Nat.mod_one]
  | k + 1 => by
    simp only [sumD]
    rw [sumD_digits r n k, pow_mul_succ, Nat.mod_mul]
    push_cast; ring

theorem div_pow_add (n p k : Nat) : n / 2 ^ (p + k) = n / 2 ^ p / 2 ^ k := by
  rw [pow_add, Nat.div_div_eq_div_mul]

theorem div_pow_lt (n b p k : Nat) (hn : n < 2 ^ b) (h : b ≤ p + k) : n / 2 ^ p < 2 ^ k := by
  apply Nat.div_lt_of_lt_mul
  calc n < 2 ^ b := hn
    _ ≤ 2 ^ (p + k) := Nat.pow_le_pow_right (by decide) h
    _ = 2 ^ p * 2 ^ k := pow_add 2 p k

theorem mod_pow_div_mod (m W b w : Nat) (h : b + w ≤ W) : m % 2 ^ W / 2 ^ b % 2 ^ w = m / 2 ^ b % 2 ^ w := by
  obtain ⟨e, rfl⟩ : ∃ e, W = b + e := ⟨W - b, by omega⟩
  rw [pow_add, Nat.mod_mul_right_div_self]
  exact Nat.mod_mod_of_dvd _ (Nat.pow_dvd_pow 2 (by omega))

theorem byteAt_field (n j b w : Nat) (h : b + w ≤ 8) : byteAt n j / 2 ^ b % 2 ^ w = n / 2 ^ (8 * j + b) % 2 ^ w := by
  unfold byteAt
  rw [show 256 = 2 ^ 8 from rfl, mod_pow_div_mod _ 8 b w h, ← div_pow_add]

theorem carry_step (n p k : Nat) (S d : Int) (c c' : Nat)
    (h : S + (c : Int) * 2 ^ p = ((n % 2 ^ p : Nat) : Int))
    (hd : d + (c' : Int) * 2 ^ k = (c : Int) + ((n / 2 ^ p % 2 ^ k : Nat) : Int)) :
    S + d * 2 ^ p + (c' : Int) * 2 ^ (p + k) = ((n % 2 ^ (p + k) : Nat) : Int) := by
  rw [pow_add, pow_add, Nat.mod_mul, Nat.cast_add, Nat.cast_mul, Nat.cast_pow, Nat.cast_ofNat]
  linear_combination h + (2 : Int) ^ p * hd

/-- State of a loop that recodes `n` from the bottom into `m` digits, digit `j` weighing `2^(r·j)`: nothing is written
    from index `k` on, and the digits below `k` with a carry `c` of weight `2^(r·k)` account for the low `r·k` bits. -/
structure Carried (n r m k c : Nat) (a : Array Int) : Prop where
  size : a.size = m
  carry_le : c ≤ 1
  rest : ∀ j, k ≤ j → dig a j = 0
  value : sumD r (dig a) m + (c : Int) * 2 ^ (r * k) = ((n % 2 ^ (r * k) : Nat) : Int)

theorem Carried.init (n r m : Nat) : Carried n r m 0 0 (Array.replicate m 0) where
  size := by simp
  carry_le := by omega
  rest := fun j _ => dig_replicate m j
  value := by rw [sumD_zero r _ m (fun i _ => dig_replicate m i)]; simp [Nat.mod_one]

section Carried
variable {n r m k c : Nat} {a : Array Int} (h : Carried n r m k c a)
include h

theorem Carried.skip (s c' : Nat) (hc' : c' ≤ 1)
    (hd : (c' : Int) * 2 ^ (r * s) = (c : Int) + ((n / 2 ^ (r * k) % 2 ^ (r * s) : Nat) : Int)) :
    Carried n r m (k + s) c' a where
  size := h.size
  carry_le := hc'
  rest := fun j hj => h.rest j (by omega)
  value := by
    rw [Nat.mul_add]
    simpa using carry_step n (r * k) (r * s) _ 0 c c' h.value (by rw [zero_add]; exact hd)

theorem Carried.store (hk : k < m) (s : Nat) (hs : 0 < s) (d : Int) (c' : Nat) (hc' : c' ≤ 1)
    (hd : d + (c' : Int) * 2 ^ (r * s) = (c : Int) + ((n / 2 ^ (r * k) % 2 ^ (r * s) : Nat) : Int)) :
    Carried n r m (k + s) c' (a.setIfInBounds k d) where
  size := by simp [h.size]
  carry_le := hc'
  rest := fun j hj => by rw [dig_set_ne _ _ _ _ (by omega)]; exact h.rest j (by omega)
  value := by
    rw [sumD_set r a k d m (by rw [h.size]; exact hk) hk, h.rest k (Nat.le_refl _), sub_zero, Nat.mul_add]
    exact carry_step n (r * k) (r * s) _ d c c' h.value hd

theorem Carried.value_eq (hc : c = 0) (hn : n < 2 ^ (r * k)) : sumD r (dig a) m = (n : Int) := by
  have := h.value
  rwa [hc, Nat.cast_zero, zero_mul, add_zero, Nat.mod_eq_of_lt hn] at this

end Carried

theorem x5_eq (n i : Nat) (hn : n < 2 ^ 256) (hi : i ≤ 4) : x5 n i = n / 2 ^ (64 * i) % 2 ^ 64 := by
  unfold x5 word64
  by_cases h : i < 4
  · simp [h]
  · have : i = 4 := by omega
    subst this
    simp only [h, if_false]
    have : n / 2 ^ (64 * 4) = 0 := Nat.div_eq_of_lt (by simpa using hn)
    rw [this]; rfl

/-- seam case: `(lo >> b) | (hi << (64-b))` on `uint64` is `(m >> b) mod 2^64` for `m = hi·2^64 + lo` -/
theorem seam_word (m b : Nat) (hb : b < 64) :
    (m % 2 ^ 64) / 2 ^ b ||| (m / 2 ^ 64 % 2 ^ 64) * 2 ^ (64 - b) % 2 ^ 64 = m / 2 ^ b % 2 ^ 64 := by
  have hs : 2 ^ 64 = 2 ^ (64 - b) * 2 ^ b := by rw [← pow_add]; congr 1; omega
  have hs' : 2 ^ 64 = 2 ^ b * 2 ^ (64 - b) := by rw [← pow_add]; congr 1; omega
  have hhi : (m / 2 ^ 64 % 2 ^ 64) * 2 ^ (64 - b) % 2 ^ 64 = 2 ^ (64 - b) * (m / 2 ^ 64 % 2 ^ b) := by
    conv => lhs; rw [Nat.mul_comm]; rhs; rw [hs]
    rw [Nat.mul_mod_mul_left]
    congr 1
    exact Nat.mod_mod_of_dvd _ (Nat.pow_dvd_pow 2 (by omega))
  have hlo : (m % 2 ^ 64) / 2 ^ b = m / 2 ^ b % 2 ^ (64 - b) := by
    conv => lhs; rw [hs']
    rw [Nat.mod_mul_right_div_self]
  have hlt : m / 2 ^ b % 2 ^ (64 - b) < 2 ^ (64 - b) := Nat.mod_lt _ (Nat.pow_pos (by decide))
  rw [hhi, hlo, Nat.or_comm, ← Nat.two_pow_add_eq_or_of_lt hlt]
  -- m / 2^b % 2^64 = m/2^b % 2^(64-b) + 2^(64-b) * (m / 2^b / 2^(64-b) % 2^b)
  conv => rhs; rw [hs, Nat.mod_mul]
  have : m / 2 ^ b / 2 ^ (64 - b) = m / 2 ^ 64 := by rw [Nat.div_div_eq_div_mul, ← hs']
  rw [this, Nat.add_comm]

theorem nafBitBuf_mod (n w pos : Nat) (hn : n < 2 ^ 256) (hw : w ≤ 8) (hpos : pos < 256) :
    nafBitBuf n w pos % 2 ^ w = n / 2 ^ pos % 2 ^ w := by
  unfold nafBitBuf
  simp only
  have hidx : pos / 64 ≤ 3 := by omega
  have hdiv : n / 2 ^ (64 * (pos / 64)) / 2 ^ (pos % 64) = n / 2 ^ pos := by
    rw [← div_pow_add, Nat.div_add_mod]
  rw [x5_eq n _ hn (by omega)]
  by_cases hb : pos % 64 < 64 - w
  · simp only [hb, if_true, shr64]
    rw [mod_pow_div_mod _ 64 _ _ (by omega), hdiv]
  · simp only [hb, if_false, shr64, shl64]
    rw [x5_eq n _ hn (by omega)]
    have h1 : n / 2 ^ (64 * (1 + pos / 64)) = n / 2 ^ (64 * (pos / 64)) / 2 ^ 64 := by
      have : 64 * (1 + pos / 64) = 64 * (pos / 64) + 64 := by omega
      rw [this]; exact div_pow_add _ _ _
    rw [h1, seam_word _ _ (by omega), hdiv]
    exact Nat.mod_mod_of_dvd _ (Nat.pow_dvd_pow 2 (by omega))

/-- the ToRadix2w bit buffer is the NAF one wherever its word index exists: `scalar64x4` holds the first four words of
    `x`, and the `u64Idx == 3` shortcut leaves out `x[4] << _ = 0` -/
theorem r2wBitBuf_mod (n w off : Nat) (hn : n < 2 ^ 256) (hw : w ≤ 8) (hidx : off / 64 ≤ 3) :
    r2wBitBuf n w off % 2 ^ w = n / 2 ^ off % 2 ^ w := by
  have hx : ∀ i, i ≤ 3 → x5 n i = word64 n i := fun i hi => if_pos (by omega)
  have : r2wBitBuf n w off = nafBitBuf n w off := by
    unfold r2wBitBuf nafBitBuf
    simp only [hx _ hidx]
    by_cases h3 : off / 64 = 3
    · have h4 : x5 n 4 = 0 := rfl
      simp [h3, h4, shl64]
    · simp [h3, hx (1 + off / 64) (by omega)]
  rw [this]
  exact nafBitBuf_mod n w off hn hw (by omega)

/-- index of the digit that receives the terminal carry -/
def terminalIdx (w : Nat) : Nat := if w = 8 then digitsCount w else digitsCount w - 1

theorem toRadix2wSizeHint_eq {w : Nat} (hw : w = 6 ∨ w = 7 ∨ w = 8) :
    toRadix2wSizeHint w = some (terminalIdx w + 1) := by
  rcases hw with rfl | rfl | rfl <;> rfl

theorem wrap8_id (x : Int) (h1 : -128 ≤ x) (h2 : x < 128) : wrap8 x = x := by
  unfold wrap8; omega

/-- `int8(a) - int8(b)` in `int8` is `a - b` whenever that fits, whether or not the conversions wrap -/
theorem wrap8_sub (a b : Int) (h1 : -128 ≤ a - b) (h2 : a - b < 128) : wrap8 (wrap8 a - wrap8 b) = a - b := by
  unfold wrap8; omega

end Voi.Props.C17

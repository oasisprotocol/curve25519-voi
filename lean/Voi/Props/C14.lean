/-
C14 — hash-to-curve: the suite functions of h2c.go as modelled in `Voi.Model.H2C` are the suites of RFC 9380
(`Voi.Spec.H2C`), for all inputs.  The parts: `C14/Expand` (message expansion), `C14/HashWF` (its hypotheses hold for
SHA-2 / SHAKE), `C14/U2F` (hash_to_field), `C14/Elligator` (the map).  Here: the tails `encodeToCurve` / `hashToCurve`;
the suites, each of which is `suite n tail` (all suite theorems go through `suite_cases`, `suite_eq`, `suite_tail`);
cofactor clearing; the two named SHA-512 suites with no hypothesis left.  RFC 9380 vectors are `example`s in
`C14/Vectors*.lean`.
-/
import Voi.Props.C14.Expand
import Voi.Props.C14.HashWF
import Voi.Props.C14.U2F
import Voi.Props.C14.Elligator
import Voi.Props.C14.Vectors
import Voi.Props.C14.VectorsXof
import Voi.Props.C14.VectorsMap
namespace Voi.Props.C14
open Voi Voi.Spec Voi.Spec.H2C Voi.Model.H2C
open Voi.Proofs (Ed25519 toEd PtIs)

theorem clearCofactor_eq (P : Pt) : clearCofactor P = Pt.mul8 P := rfl

theorem fieldElems_one (ub : Bytes) (h : ub.size = 48) : fieldElems ub 1 = [os2ipModP ub] := by
  unfold fieldElems
  have e : bslice ub (fieldL * 0) fieldL = ub := by
    unfold bslice fieldL; exact extract_full ub _ (by omega)
  rw [List.range_one, List.map_cons, List.map_nil, e]

theorem fieldElems_two (ub : Bytes) :
    fieldElems ub 2 = [os2ipModP (ub.extract 0 48), os2ipModP (ub.extract 48 96)] := by
  unfold fieldElems
  have hr : List.range 2 = [0, 1] := rfl
  rw [hr, List.map_cons, List.map_cons, List.map_nil]
  rfl

theorem encodeToCurve_val (ub : Bytes) (h : ub.size = 48) :
    Model.H2C.encodeToCurve ub = some (Pt.mul8 (mapToCurve (os2ipModP ub))) := by
  unfold Model.H2C.encodeToCurve
  rw [uniformToField_eq ub h, Option.bind_some, elligator_model_eq_spec, Option.bind_some]

theorem hashToCurve_val (ub : Bytes) (h : ub.size = 96) :
    Model.H2C.hashToCurve ub = some (Pt.mul8 (Pt.add (mapToCurve (os2ipModP (ub.extract 0 48)))
      (mapToCurve (os2ipModP (ub.extract 48 96))))) := by
  unfold Model.H2C.hashToCurve
  have hl : Model.H2C.ell = 48 := rfl
  rw [hl, h, uniformToField_eq _ (by rw [ByteArray.size_extract]; omega), Option.bind_some,
    uniformToField_eq _ (by rw [ByteArray.size_extract]; omega), Option.bind_some,
    elligator_model_eq_spec, Option.bind_some, elligator_model_eq_spec, Option.bind_some]

/-- `encodeToCurve` (h2c.go) on 48 uniform bytes: hash_to_field (count = 1), the map, clear_cofactor; never panics. -/
theorem encodeToCurve_eq (ub : Bytes) (h : ub.size = 48) :
    Model.H2C.encodeToCurve ub = some (encodeFromUniform ub) := by
  rw [encodeToCurve_val ub h]
  unfold encodeFromUniform
  rw [fieldElems_one ub h]
  rfl

/-- `hashToCurve` (h2c.go) on 96 uniform bytes: hash_to_field (count = 2), two maps, the sum, clear_cofactor; never
panics. -/
theorem hashToCurve_eq (ub : Bytes) (h : ub.size = 96) :
    Model.H2C.hashToCurve ub = some (hashFromUniform ub) := by
  rw [hashToCurve_val ub h]
  unfold hashFromUniform
  rw [fieldElems_two ub]
  rfl

/-- the Spec's `Option` as the model's result type: abort ↦ error -/
def specRes {α : Type} : Option α → Res α
  | some a => .ok a
  | none => .err

/-- the Go expander `expand` gives the result of the RFC expander `sexp` for the requested length `len(out)`, and the
buffer keeps its length -/
structure Implements (expand : Expand) (sexp : Expander) : Prop where
  eq : ∀ out dst msg, expand out dst msg = sexp msg dst out.size
  size : ∀ out dst msg o, expand out dst msg = some o → o.size = out.size

theorem implements_xmd (hf : HashFn) (hwf : HashWF hf) : Implements (expandXMD hf) (xmd hf) :=
  ⟨fun out dst msg => xmd_model_eq_spec hf hwf out dst msg, fun out dst msg _ h => xmd_length out hf dst msg h⟩

theorem implements_xof (x : Xof) (hwf : XofWF x.fn) : Implements (expandXOF x) (xof x.fn) :=
  ⟨fun out dst msg => xof_model_eq_spec x hwf out dst msg, fun out dst msg _ h => xof_length out x dst msg h⟩

/-- the common shape of the suite functions of h2c.go: expand into a zeroed `n`-byte buffer, then `tail` -/
def suite {α : Type} (n : Nat) (tail : Bytes → Res α) (expand : Expand) (dst msg : Bytes) : Res α :=
  match expand (bzero n) dst msg with
  | none => .err
  | some ub => tail ub

theorem NU_eq_suite : edwards25519_ELL2_NU = suite 48 fun ub => resOfOption (Model.H2C.encodeToCurve ub) := rfl
theorem RO_eq_suite : edwards25519_ELL2_RO = suite 96 fun ub => resOfOption (Model.H2C.hashToCurve ub) := rfl

theorem suite_cases {α : Type} (n : Nat) (tail : Bytes → Res α) {expand : Expand}
    (hsize : ∀ out dst msg o, expand out dst msg = some o → o.size = out.size) (dst msg : Bytes) :
    (expand (bzero n) dst msg = none ∧ suite n tail expand dst msg = .err) ∨
    ∃ ub, expand (bzero n) dst msg = some ub ∧ ub.size = n ∧ suite n tail expand dst msg = tail ub := by
  unfold suite
  cases he : expand (bzero n) dst msg with
  | none => exact .inl ⟨rfl, rfl⟩
  | some ub => exact .inr ⟨ub, rfl, by rw [hsize _ _ _ _ he, Bytes.bzero_size], rfl⟩

theorem suite_eq {α : Type} {n : Nat} {tail : Bytes → Res α} {g : Bytes → α}
    (ht : ∀ ub, ub.size = n → tail ub = .ok (g ub))
    {expand : Expand} {sexp : Expander} (hi : Implements expand sexp) (dst msg : Bytes) :
    suite n tail expand dst msg = specRes ((sexp msg dst n).map g) := by
  have he := hi.eq (bzero n) dst msg
  rw [Bytes.bzero_size] at he
  rcases suite_cases n tail hi.size dst msg with ⟨h, hs⟩ | ⟨ub, h, hn, hs⟩
  · rw [hs, ← he, h]; rfl
  · rw [hs, ← he, h, ht ub hn]; rfl

/-- C14: the `_NU_` suites (`Edwards25519_XMD_ELL2_NU`, `Edwards25519_XOF_ELL2_NU`) are encode_to_curve of RFC 9380 §3:
error exactly when the expander aborts, otherwise the RFC's point; no panic. -/
theorem suite_NU_eq {expand : Expand} {sexp : Expander} (hi : Implements expand sexp) (dst msg : Bytes) :
    edwards25519_ELL2_NU expand dst msg = specRes (H2C.encodeToCurve sexp msg dst) :=
  suite_eq (fun ub h => congrArg resOfOption (encodeToCurve_eq ub h)) hi dst msg

/-- C14: the `_RO_` suites (`Edwards25519_XMD_ELL2_RO`, `Edwards25519_XOF_ELL2_RO`) are hash_to_curve of RFC 9380 §3. -/
theorem suite_RO_eq {expand : Expand} {sexp : Expander} (hi : Implements expand sexp) (dst msg : Bytes) :
    edwards25519_ELL2_RO expand dst msg = specRes (H2C.hashToCurve sexp msg dst) :=
  suite_eq (fun ub h => congrArg resOfOption (hashToCurve_eq ub h)) hi dst msg

/-- C14: the ristretto255 suites are hash_to_ristretto255 (RFC 9380 Appendix B): expansion to 64 bytes followed by the
one-way map (whose code is the object of C11 / stream T1). -/
theorem suite_ristretto_eq {expand : Expand} {sexp : Expander} (hi : Implements expand sexp) (dst msg : Bytes) :
    ristretto255_R255MAP_RO expand dst msg = specRes (hashToRistretto255 sexp msg dst) :=
  suite_eq (fun _ _ => rfl) hi dst msg

theorem suite_XMD_RO_eq (hf : HashFn) (hwf : HashWF hf) (dst msg : Bytes) :
    edwards25519_ELL2_RO (expandXMD hf) dst msg = specRes (H2C.hashToCurve (xmd hf) msg dst) :=
  suite_RO_eq (implements_xmd hf hwf) dst msg
theorem suite_XMD_NU_eq (hf : HashFn) (hwf : HashWF hf) (dst msg : Bytes) :
    edwards25519_ELL2_NU (expandXMD hf) dst msg = specRes (H2C.encodeToCurve (xmd hf) msg dst) :=
  suite_NU_eq (implements_xmd hf hwf) dst msg
/-- `x : Xof` carries the state of the instance handed in -/
theorem suite_XOF_RO_eq (x : Xof) (hwf : XofWF x.fn) (dst msg : Bytes) :
    edwards25519_ELL2_RO (expandXOF x) dst msg = specRes (H2C.hashToCurve (xof x.fn) msg dst) :=
  suite_RO_eq (implements_xof x hwf) dst msg
theorem suite_XOF_NU_eq (x : Xof) (hwf : XofWF x.fn) (dst msg : Bytes) :
    edwards25519_ELL2_NU (expandXOF x) dst msg = specRes (H2C.encodeToCurve (xof x.fn) msg dst) :=
  suite_NU_eq (implements_xof x hwf) dst msg

theorem suite_tail {α : Type} {n : Nat} {f : Bytes → Option α} {φ : α → Prop}
    (hf : ∀ ub, ub.size = n → ∃ a, f ub = some a ∧ φ a) {expand : Expand}
    (hsize : ∀ out dst msg o, expand out dst msg = some o → o.size = out.size) (dst msg : Bytes) :
    (expand (bzero n) dst msg = none ∧ suite n (fun ub => resOfOption (f ub)) expand dst msg = .err) ∨
    ∃ a, suite n (fun ub => resOfOption (f ub)) expand dst msg = .ok a ∧ φ a := by
  rcases suite_cases n _ hsize dst msg with h | ⟨ub, -, hn, hs⟩
  · exact .inl h
  · obtain ⟨a, ha, hφ⟩ := hf ub hn
    exact .inr ⟨a, by rw [hs, ha]; rfl, hφ⟩

/-- C14, cofactor clearing: `encodeToCurve` returns `8 • Q` in the group `Ed25519` of `Voi.Proofs` -/
theorem cofactor_cleared_NU (ub : Bytes) (h : ub.size = 48) :
    ∃ (Q : Pt) (hQ : Q.onCurve = true),
      Model.H2C.encodeToCurve ub = some (Pt.mul8 Q) ∧ PtIs (Pt.mul8 Q) (8 • toEd Q hQ) :=
  ⟨_, mapToCurve_onCurve _, encodeToCurve_val ub h, (PtIs.of_toEd _ _).mul8⟩

theorem cofactor_cleared_RO (ub : Bytes) (h : ub.size = 96) :
    ∃ (Q0 Q1 : Pt) (h0 : Q0.onCurve = true) (h1 : Q1.onCurve = true),
      Model.H2C.hashToCurve ub = some (Pt.mul8 (Pt.add Q0 Q1)) ∧
      PtIs (Pt.mul8 (Pt.add Q0 Q1)) (8 • (toEd Q0 h0 + toEd Q1 h1)) :=
  ⟨_, _, mapToCurve_onCurve _, mapToCurve_onCurve _, hashToCurve_val ub h,
    ((PtIs.of_toEd _ _).add (PtIs.of_toEd _ _)).mul8⟩

theorem torsionFree_of_mul8 (hExp : ∀ P : Ed25519, (8 * L) • P = 0) {R : Pt} {A : Ed25519}
    (h : PtIs R (8 • A)) : R.isTorsionFree = true := by
  rw [Voi.Proofs.isTorsionFree_iff h.1, h.2, smul_smul, Nat.mul_comm]
  exact hExp A

/-- C14, prime-order subgroup.  The hypothesis (the curve group has exponent 8·L) is the theorem
`Voi.Proofs.exp_Ed25519` (Proofs/GroupOrder.lean). -/
theorem tails_torsion_free :
    (∀ ub : Bytes, ub.size = 48 → ∃ P, Model.H2C.encodeToCurve ub = some P ∧ P.onCurve = true ∧
      ((∀ A : Ed25519, (8 * L) • A = 0) → P.isTorsionFree = true)) ∧
    (∀ ub : Bytes, ub.size = 96 → ∃ P, Model.H2C.hashToCurve ub = some P ∧ P.onCurve = true ∧
      ((∀ A : Ed25519, (8 * L) • A = 0) → P.isTorsionFree = true)) := by
  constructor
  · intro ub h
    obtain ⟨Q, hQ, he, hp⟩ := cofactor_cleared_NU ub h
    exact ⟨_, he, hp.1, fun hExp => torsionFree_of_mul8 hExp hp⟩
  · intro ub h
    obtain ⟨Q0, Q1, h0, h1, he, hp⟩ := cofactor_cleared_RO ub h
    exact ⟨_, he, hp.1, fun hExp => torsionFree_of_mul8 hExp hp⟩

theorem suite_point_torsion_free (hExp : ∀ P : Ed25519, (8 * L) • P = 0) (expand : Expand)
    (hsize : ∀ out dst msg o, expand out dst msg = some o → o.size = out.size) (dst msg : Bytes) (P : Pt)
    (h : edwards25519_ELL2_NU expand dst msg = .ok P ∨ edwards25519_ELL2_RO expand dst msg = .ok P) :
    P.onCurve = true ∧ P.isTorsionFree = true := by
  rcases h with h | h
  · rcases suite_tail tails_torsion_free.1 hsize dst msg with ⟨-, he⟩ | ⟨P', hP', hc, ht⟩
    · rw [NU_eq_suite, he] at h; cases h
    · rw [NU_eq_suite, hP'] at h; cases h; exact ⟨hc, ht hExp⟩
  · rcases suite_tail tails_torsion_free.2 hsize dst msg with ⟨-, he⟩ | ⟨P', hP', hc, ht⟩
    · rw [RO_eq_suite, he] at h; cases h
    · rw [RO_eq_suite, hP'] at h; cases h; exact ⟨hc, ht hExp⟩

theorem suite_no_panic (expand : Expand)
    (hsize : ∀ out dst msg o, expand out dst msg = some o → o.size = out.size) (dst msg : Bytes) :
    edwards25519_ELL2_NU expand dst msg ≠ .panic ∧ edwards25519_ELL2_RO expand dst msg ≠ .panic := by
  constructor
  · rcases suite_tail (φ := fun _ => True) (fun ub h => ⟨_, encodeToCurve_val ub h, trivial⟩) hsize dst msg
      with ⟨-, h⟩ | ⟨P, h, -⟩
    · rw [NU_eq_suite, h]; nofun
    · rw [NU_eq_suite, h]; nofun
  · rcases suite_tail (φ := fun _ => True) (fun ub h => ⟨_, hashToCurve_val ub h, trivial⟩) hsize dst msg
      with ⟨-, h⟩ | ⟨P, h, -⟩
    · rw [RO_eq_suite, h]; nofun
    · rw [RO_eq_suite, h]; nofun

/-- C14: `Edwards25519_XMD_SHA512_ELL2_RO` is the suite edwards25519_XMD:SHA-512_ELL2_RO_ of RFC 9380 -/
theorem suite_SHA512_RO (dst msg : Bytes) :
    Model.H2C.edwards25519_XMD_SHA512_ELL2_RO dst msg = specRes (H2C.edwards25519_XMD_SHA512_ELL2_RO msg dst) :=
  suite_XMD_RO_eq hSha512 hashWF_sha512 dst msg

/-- C14: `Edwards25519_XMD_SHA512_ELL2_NU` is the suite edwards25519_XMD:SHA-512_ELL2_NU_ of RFC 9380 -/
theorem suite_SHA512_NU (dst msg : Bytes) :
    Model.H2C.edwards25519_XMD_SHA512_ELL2_NU dst msg = specRes (H2C.edwards25519_XMD_SHA512_ELL2_NU msg dst) :=
  suite_XMD_NU_eq hSha512 hashWF_sha512 dst msg

/-- SHA-512 has b = 64 ≥ 32, and 255 blocks give 255·64 bytes; the suites ask for 48 / 96 / 64 -/
theorem expand_SHA512_total (n : Nat) (hn : 0 < n ∧ n ≤ 255 * 64) (dst msg : Bytes) :
    ∃ ub, expandXMD hSha512 (bzero n) dst msg = some ub ∧ ub.size = n := by
  rcases xmd_cases (bzero n) hSha512 dst msg with ⟨-, ha⟩ | ⟨o, ho, hs, -⟩
  · have hb : hSha512.b = 64 := rfl
    rw [Bytes.bzero_size, hb] at ha
    omega
  · exact ⟨o, ho, by rw [hs, Bytes.bzero_size]⟩

/-- C14: the two named suites always return a point (no error, no panic) -/
theorem suite_SHA512_total (dst msg : Bytes) :
    (∃ P, Model.H2C.edwards25519_XMD_SHA512_ELL2_RO dst msg = .ok P ∧ P.onCurve = true ∧
      ((∀ A : Ed25519, (8 * L) • A = 0) → P.isTorsionFree = true)) ∧
    (∃ P, Model.H2C.edwards25519_XMD_SHA512_ELL2_NU dst msg = .ok P ∧ P.onCurve = true ∧
      ((∀ A : Ed25519, (8 * L) • A = 0) → P.isTorsionFree = true)) := by
  have hsize := (implements_xmd hSha512 hashWF_sha512).size
  constructor
  · rcases suite_tail tails_torsion_free.2 hsize dst msg with ⟨hn, -⟩ | h
    · obtain ⟨ub, he, -⟩ := expand_SHA512_total 96 (by omega) dst msg
      rw [he] at hn; cases hn
    · exact h
  · rcases suite_tail tails_torsion_free.1 hsize dst msg with ⟨hn, -⟩ | h
    · obtain ⟨ub, he, -⟩ := expand_SHA512_total 48 (by omega) dst msg
      rw [he] at hn; cases hn
    · exact h

/-- r = 0 ↦ the identity (0, 1): Montgomery (0, 0), the exceptional case `v = 0` of the rational map -/
theorem elligator_zero : edwardsFlavor 0 = some Pt.zero ∧ mapToCurve 0 = Pt.zero := by
  have h : mapToCurve 0 = Pt.zero := by decide +kernel
  exact ⟨by rw [elligator_model_eq_spec, h], h⟩

theorem edwardsFlavor_congr {r r' : Nat} (h : Fp.sq r = Fp.sq r') : edwardsFlavor r = edwardsFlavor r' := by
  rw [elligator_model_eq_spec, elligator_model_eq_spec]
  unfold mapToCurve mapToCurveElligator2
  rw [h]

/-- The code multiplies `v` by `r` itself in the non-square branch; the sign rule
`ConditionalNegate(isSquare ^ IsNegative)` removes the dependence on the sign of `r`, since the Spec only uses `r²`. -/
theorem elligator_neg (r : Nat) : edwardsFlavor (Fp.neg r) = edwardsFlavor r :=
  edwardsFlavor_congr <| Voi.Props.C07.toZ_inj (Voi.Props.C07.sq_lt _) (Voi.Props.C07.sq_lt _)
    (by rw [Voi.Props.C07.toZ_sq, Voi.Props.C07.toZ_sq, Voi.Props.C07.toZ_neg]; ring)

end Voi.Props.C14

#print axioms Voi.Props.C14.xmd_model_eq_spec
#print axioms Voi.Props.C14.xmd_abort_iff
#print axioms Voi.Props.C14.xmd_length
#print axioms Voi.Props.C14.xmd_oversize_dst
#print axioms Voi.Props.C14.xof_model_eq_spec
#print axioms Voi.Props.C14.xof_abort_iff
#print axioms Voi.Props.C14.xof_length
#print axioms Voi.Props.C14.xof_oversize_dst
#print axioms Voi.Props.C14.xof_state_irrelevant
#print axioms Voi.Props.C14.hashWF_sha512
#print axioms Voi.Props.C14.hashWF_sha384
#print axioms Voi.Props.C14.hashWF_sha256
#print axioms Voi.Props.C14.xofWF_shake128
#print axioms Voi.Props.C14.xofWF_shake256
#print axioms Voi.Props.C14.uniformToField_eq
#print axioms Voi.Props.C14.two_nonsquare
#print axioms Voi.Props.C14.one_add_two_sq_ne_zero
#print axioms Voi.Props.C14.montgomery_model_eq_spec
#print axioms Voi.Props.C14.montgomery_on_curve
#print axioms Voi.Props.C14.mapToCurve_onCurve
#print axioms Voi.Props.C14.elligator_model_eq_spec
#print axioms Voi.Props.C14.elligator_on_curve
#print axioms Voi.Props.C14.elligator_zero
#print axioms Voi.Props.C14.elligator_neg
#print axioms Voi.Props.C14.encodeToCurve_eq
#print axioms Voi.Props.C14.hashToCurve_eq
#print axioms Voi.Props.C14.suite_NU_eq
#print axioms Voi.Props.C14.suite_RO_eq
#print axioms Voi.Props.C14.suite_ristretto_eq
#print axioms Voi.Props.C14.suite_SHA512_RO
#print axioms Voi.Props.C14.suite_SHA512_NU
#print axioms Voi.Props.C14.suite_SHA512_total
#print axioms Voi.Props.C14.cofactor_cleared_NU
#print axioms Voi.Props.C14.cofactor_cleared_RO
#print axioms Voi.Props.C14.tails_torsion_free
#print axioms Voi.Props.C14.suite_point_torsion_free
#print axioms Voi.Props.C14.suite_no_panic

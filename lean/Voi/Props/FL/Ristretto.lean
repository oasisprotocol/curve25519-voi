/-
C11: the regenerated ristretto255 functions of curve/ristretto.go are the functions of RFC 9496 as transcribed in
`Spec.Ristretto`: `SetCompressed` = §4.3.1 DECODE (same accept/reject decision for every 32-byte string, same internal
representative on acceptance), `Equal` = §4.3.3 EQUALS, `SetRistrettoPoint` = §4.3.2 ENCODE, `elligatorRistrettoFlavor` =
§4.3.4 MAP.  The proofs unfold both sides and compare them term by term.
-/
import Voi.Props.FL.Encoding
import Voi.Spec.Ristretto
import Voi.Gen.FL_CurveF64_RistrettoDecode
import Voi.Gen.FL_CurveF64_RistrettoEqual
import Voi.Gen.FL_CurveF64_RistrettoEncode
import Voi.Gen.FL_CurveF64_RistrettoElligator
namespace Voi.Props.FL
open Voi Voi.Spec Voi.Proofs Voi.FIR Voi.Gen.CurveF64
open Voi.Props.C07 hiding toZ

local notation "toZ" => Voi.Props.C07.toZ

/-- the code tests canonicity by re-encoding -/
theorem canon_iff {n : Nat} : n = (n % 2 ^ 255 % p) % p ↔ n < p := by
  constructor
  · intro h; rw [h]; exact mod_lt _
  · intro h
    have : n < 2 ^ 255 := Nat.lt_trans h p_lt
    rw [Nat.mod_eq_of_lt this, Nat.mod_eq_of_lt h, Nat.mod_eq_of_lt h]

theorem RistrettoDecode_eq (b : Bytes) (hb : b.size = 32) :
    RistrettoDecode_tsh (leNat b) = (Ristretto.decode b).map fun E => [E.X, E.Y, E.Z, E.T] := by
  unfold RistrettoDecode_tsh Ristretto.decode
  generalize leNat b = n
  simp only [hb, ne_eq, not_true_eq_false, if_false, Ristretto.D, Ristretto.sqrtRatioM1, Ristretto.isNegative,
    Ristretto.ctAbs, ite_cond_true, ite_cond_false]
  by_cases hn : n < p
  · -- canonical: the decoded value is n itself
    have h1 : fromBytes n = n := by
      unfold fromBytes; rw [Nat.mod_eq_of_lt (Nat.lt_trans hn p_lt), Nat.mod_eq_of_lt hn]
    have h2 : bytesEq n (toBytes n) = 1 := by unfold bytesEq toBytes; rw [Nat.mod_eq_of_lt hn]; simp
    have hge : ¬ n ≥ p := Nat.not_le.2 hn
    simp only [h1, h2, hge, if_false, Nat.one_ne_zero]
    by_cases hneg : Fp.isNeg n = true
    · simp [fisNeg, hneg]
    · have hneg' : Fp.isNeg n = false := by simpa using hneg
      have hf : fisNeg n = 0 := by simp [fisNeg, hneg']
      simp only [hf, hneg', Bool.false_eq_true, if_false, if_true]
      -- the arithmetic: same values, written with different associations
      rw [fp_neg_mul]
      simp only [sqrtV, sqrtOk, ← fp_two_mul, ← fp_mul_assoc (Fp.sqrtRatioM1 1 _).2]
      -- `sr` is `C11.dSR n`, below `dx`, `x0`, `y` are `C11.dDenX`, the argument of `abs` in `dX`, `dY`
      generalize Fp.sqrtRatioM1 1 _ = sr
      obtain ⟨ok, r⟩ := sr
      simp only []
      generalize hdx : Fp.mul r (Fp.add 1 (Fp.sq n)) = dx
      generalize hx0 : Fp.mul (Fp.mul 2 n) dx = x0
      have hx0lt : x0 < p := hx0 ▸ mul_lt _ _
      rw [sel_isNeg_eq_abs hx0lt]
      generalize Fp.abs x0 = x
      generalize hy : Fp.mul (Fp.sub 1 (Fp.sq n)) _ = y
      have hylt : y < p := hy ▸ mul_lt _ _
      cases ok <;> cases hnt : Fp.isNeg (Fp.mul x y) <;> by_cases hy0 : y = 0 <;>
        simp [fisNeg, fisZero, hnt, hy0, Nat.mod_eq_of_lt hylt]
  · -- not canonical: the re-encoding differs
    have hne : bytesEq n (toBytes (fromBytes n)) = 0 := by
      unfold bytesEq toBytes fromBytes
      rw [if_neg (fun h => hn (canon_iff.1 h))]
    have hge : n ≥ p := Nat.le_of_not_lt hn
    simp [hne, hge]

theorem RistrettoEqual_eq (P Q : Ext) :
    RistrettoEqual_sh P.X P.Y P.Z P.T Q.X Q.Y Q.Z Q.T = [if Ristretto.equal P Q then 1 else 0] := by
  unfold RistrettoEqual_sh Ristretto.equal
  simp only [feq_reduced (mul_lt _ _) (mul_lt _ _), FIR.bor]
  have hc : (Fp.mul P.X Q.X == Fp.mul P.Y Q.Y) = (Fp.mul P.Y Q.Y == Fp.mul P.X Q.X) := by
    by_cases h : Fp.mul P.X Q.X = Fp.mul P.Y Q.Y
    · simp [h]
    · have h' : ¬ Fp.mul P.Y Q.Y = Fp.mul P.X Q.X := fun e => h e.symm
      simp [h, h']
  rw [hc]
  cases (Fp.mul P.X Q.Y == Fp.mul P.Y Q.X) <;> cases (Fp.mul P.Y Q.Y == Fp.mul P.X Q.X) <;> rfl

theorem const_invsqrt_a_minus_d :
    (54469307008909316920995813868745141605393597292927456921205312896311721017578 : Nat) = Ristretto.INVSQRT_A_MINUS_D := rfl
theorem const_sqrt_m1 :
    (19681161376707505956807079304988542015446066515923890162744021073123829784752 : Nat) = Ristretto.SQRT_M1 := rfl

/-- the code's `ConditionalNegate(IsNegative) ; ToBytes` is the RFC's `CT_ABS` followed by the little-endian encoding -/
theorem enc_tail (s : Nat) :
    toBytes (if Fp.isNeg s = true then Fp.neg s else s) = leNat (natLE (Fp.abs s) 32) := by
  rw [Voi.Props.Bytes.leNat_natLE, Nat.mod_eq_of_lt (Nat.lt_trans (abs_lt s) (by decide))]
  unfold toBytes Fp.abs
  split
  · exact Nat.mod_eq_of_lt (neg_lt s)
  · rfl

theorem RistrettoEncode_eq (P : Ext) :
    RistrettoEncode_sh P.X P.Y P.Z P.T = [leNat (Ristretto.encode P)] := by
  unfold RistrettoEncode_sh Ristretto.encode
  simp only [const_invsqrt_a_minus_d, const_sqrt_m1, Ristretto.sqrtRatioM1, Ristretto.isNegative, Ristretto.ctAbs, sqrtV, sqrtOk,
    fisNeg, sel_ite, fp_mul_assoc]
  generalize Fp.sqrtRatioM1 1 _ = sr
  obtain ⟨ok, r⟩ := sr
  exact congrArg (fun n => [n]) (enc_tail _)

theorem RistrettoElligator_eq (t : Nat) :
    RistrettoElligator_sh t = [(Ristretto.map t).X, (Ristretto.map t).Y, (Ristretto.map t).Z, (Ristretto.map t).T] := by
  unfold RistrettoElligator_sh Ristretto.map
  simp only [Ristretto.sqrtRatioM1, Ristretto.ctAbs, sqrtV, sqrtOk, Ristretto.D, Ristretto.SQRT_M1, Ristretto.ONE_MINUS_D_SQ,
    Ristretto.D_MINUS_ONE_SQ, Ristretto.SQRT_AD_MINUS_ONE, ← const_neg_one]
  generalize hr : Fp.mul _ (Fp.sq t) = r
  -- the code has `d·r` where the RFC has `r·d`
  rw [fp_mul_comm _ r]
  generalize Fp.sqrtRatioM1 _ _ = sr
  obtain ⟨ok, s⟩ := sr
  simp only [fisNeg, sel_bxor, neg_abs (mul_lt s t)]
  cases ok
  · simp only [Bool.false_eq_true, if_false]
    rw [fp_two_mul (if Fp.isNeg (Fp.mul s t) = true then Fp.mul s t else Fp.neg (Fp.mul s t))]
  · simp only [if_true]
    rw [fp_two_mul s]

end Voi.Props.FL

/-
Value theorems about the regenerated field-level programs of internal/field/field.go (addition chains); before them,
what the field-level instructions that are not ring operations (`pow2k`, `m121666`, `sq2`, the predicate values, `sel`) mean
in `ZMod p`, and the constants of the code that the regenerated programs contain as numerals.
-/
import Voi.Proofs.SqrtRatio
import Voi.Gen.FL_FieldF64_Invert
import Voi.Gen.FL_FieldF64_pow22501
import Voi.Gen.FL_FieldF64_pow_p58
import Voi.Gen.FL_FieldF64_ConditionalNegate
namespace Voi.Props.FL
open Voi.Spec Voi.Proofs.SqrtRatio Voi.Gen.FieldF64
open Voi.Props.C07 hiding toZ

local notation "toZ" => Voi.Props.C07.toZ

/-! Predicate values are 0/1; `feq`, `fisZero`, `bor`, `band`, `sel` are read as propositions about the values in `ZMod p`, so
that a program with tests becomes an `if` over such propositions, whatever the order of the operands in the code. -/

theorem feq_eq (a b : Nat) : FIR.feq a b = if toZ a = toZ b then 1 else 0 := if_congr toZ_eq_iff.symm rfl rfl
theorem fisZero_eq (a : Nat) : FIR.fisZero a = if toZ a = 0 then 1 else 0 := if_congr toZ_eq_zero_iff.symm rfl rfl

theorem bor_ite (P Q : Prop) [Decidable P] [Decidable Q] :
    FIR.bor (if P then 1 else 0) (if Q then 1 else 0) = if P ∨ Q then 1 else 0 := by
  by_cases hP : P <;> by_cases hQ : Q <;> simp [hP, hQ, FIR.bor]
theorem band_ite (P Q : Prop) [Decidable P] [Decidable Q] :
    FIR.band (if P then 1 else 0) (if Q then 1 else 0) = if P ∧ Q then 1 else 0 := by
  by_cases hP : P <;> by_cases hQ : Q <;> simp [hP, hQ, FIR.band]
theorem sel_ite (P : Prop) [Decidable P] (a b : Nat) : FIR.sel (if P then 1 else 0) a b = if P then b else a := by
  by_cases hP : P <;> simp [hP, FIR.sel]

theorem feq_reduced {a b : Nat} (ha : a < p) (hb : b < p) : FIR.feq a b = if a == b then 1 else 0 := by
  rw [feq_eq]; exact if_congr ((toZ_inj_iff ha hb).trans beq_iff_eq.symm) rfl rfl

theorem sel_bxor (c : Bool) (a b : Nat) : FIR.sel (FIR.bxor (if c then 1 else 0) 1) a b = if c then a else b := by
  cases c <;> rfl

/-- a branch on a predicate value (`if ok != 1 { return err }` and the like) as an `if` on the value -/
theorem ite_cond_true {α : Type} (v : Nat) (x y : α) : (if FIR.cond v true = true then x else y) = if v = 0 then x else y := by
  unfold FIR.cond; by_cases h : v = 0 <;> simp [h]
theorem ite_cond_false {α : Type} (v : Nat) (x y : α) : (if FIR.cond v false = true then x else y) = if v = 0 then y else x := by
  unfold FIR.cond; by_cases h : v = 0 <;> simp [h]

/-- the sign fix-up `ConditionalNegate(IsNegative)` is `Fp.abs` on reduced values -/
theorem sel_isNeg_eq_abs {a : Nat} (ha : a < p) : FIR.sel (FIR.fisNeg a) a (Fp.neg a) = Fp.abs a := by
  unfold FIR.fisNeg Fp.abs; rw [sel_ite, Nat.mod_eq_of_lt ha]

@[fp] theorem toZ_pow2k (a : Nat) (k : Nat) : toZ (FIR.pow2k a k) = toZ a ^ (2 ^ k) := by
  induction k generalizing a with
  | zero => simp [FIR.pow2k, toZ_mod]
  | succ k ih => rw [FIR.pow2k, ih, toZ_sq, pow_succ 2 k, pow_mul', ← pow_two]

@[fp] theorem toZ_m121666 (a : Nat) : toZ (FIR.m121666 a) = toZ a * 121666 := by
  unfold FIR.m121666; rw [toZ_mul]; congr 1

@[fp] theorem toZ_sq2 (a : Nat) : toZ (FIR.sq2 a) = toZ a * toZ a + toZ a * toZ a := by
  unfold FIR.sq2; rw [toZ_add, toZ_sq]

theorem pow2k_lt (a k : Nat) : FIR.pow2k a k < p := by
  induction k generalizing a with
  | zero => exact mod_lt _
  | succ k ih => exact ih _

theorem const_d : (37095705934669439343138083508754565189542113879843219016388785533085940283555 : Nat) = Fp.d := d_val.symm
theorem const_d2 : (16295367250680780974490674513165176452449235426866156013048779062215315747161 : Nat) = Fp.d2 := by
  decide +kernel
theorem const_sqrtM1 : (19681161376707505956807079304988542015446066515923890162744021073123829784752 : Nat) = Fp.sqrtM1 :=
  sqrtM1_val.symm
theorem const_neg_one : (57896044618658097711785492504343953926634992332820282019728792003956564819948 : Nat) = Fp.neg 1 := by
  decide +kernel

theorem pow22501_eq (x : Nat) :
    toZ ((pow22501_sh x).getD 0 0) = toZ x ^ (2 ^ 250 - 1) ∧ toZ ((pow22501_sh x).getD 1 0) = toZ x ^ 11 := by
  simp only [pow22501_sh, List.getD_cons_zero, List.getD_cons_succ, toZ_mul, toZ_sq, toZ_pow2k]
  constructor
  · rw [show (2 ^ 250 - 1 : ℕ) = 1809251394333065553493296640760748560207343510400633813116524750123642650623 by decide]; ring
  · ring

theorem Invert_pow (x : Nat) : toZ ((Invert_sh x).getD 0 0) = toZ x ^ (p - 2) := by
  simp only [Invert_sh, List.getD_cons_zero, List.getD_cons_succ, toZ_mul, toZ_sq, toZ_pow2k]
  rw [show (p - 2 : ℕ) = 57896044618658097711785492504343953926634992332820282019728792003956564819947 by decide]; ring

theorem Invert_eq (x : Nat) : Invert_sh x = [Fp.inv x] := by
  have hp := Invert_pow x
  simp only [Invert_sh, List.getD_cons_zero] at hp ⊢
  -- the chain ends in a multiplication, hence the `mul_lt` (a chain ending in `pow2k` would need `pow2k_lt`)
  refine congrArg (fun a => [a]) (toZ_inj (mul_lt _ _) (inv_lt x) ?_)
  rw [hp, toZ_inv]

theorem Invert_inv (x : Nat) : toZ ((Invert_sh x).getD 0 0) = (toZ x)⁻¹ := by
  simp only [Invert_eq, List.getD_cons_zero]; exact toZ_inv' x

theorem pow_p58_eq (x : Nat) : toZ ((pow_p58_sh x).getD 0 0) = toZ x ^ ((p - 5) / 8) := by
  simp only [pow_p58_sh, List.getD_cons_zero, List.getD_cons_succ, toZ_mul, toZ_sq, toZ_pow2k]
  rw [show ((p - 5) / 8 : ℕ) = 7237005577332262213973186563042994240829374041602535252466099000494570602493 by decide]; ring

theorem list3_ext {α : Type} {a b c a' b' c' : α} (h1 : a = a') (h2 : b = b') (h3 : c = c') :
    [a, b, c] = [a', b', c'] := by subst h1 h2 h3; rfl
theorem list4_ext {α : Type} {a b c d a' b' c' d' : α} (h1 : a = a') (h2 : b = b') (h3 : c = c') (h4 : d = d') :
    [a, b, c, d] = [a', b', c', d'] := by subst h1 h2 h3 h4; rfl

theorem ConditionalNegate_eq (x c : Nat) : ConditionalNegate_sh x c = [if c = 0 then x else Fp.neg x] := by
  simp only [ConditionalNegate_sh, FIR.sel]

end Voi.Props.FL

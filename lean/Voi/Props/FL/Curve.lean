/-
Value theorems about the regenerated field-level programs of curve/models.go and curve/edwards.go (serial backend,
`go2ir -flevel`, group CurveF64): what `(*EdwardsPoint).Add/Sub/Neg/double/MulByCofactor/Identity/Equal` compute, stated
against the extended-coordinate formulas over `ZMod p` whose relation to the Edwards group law is proved in
`Proofs/EdwardsExt`; no hand transcription of `models.go` is involved.
-/
import Voi.Props.FL.Field
import Voi.Proofs.SpecBridge
import Voi.Gen.FL_CurveF64_EdwardsAdd
import Voi.Gen.FL_CurveF64_EdwardsSub
import Voi.Gen.FL_CurveF64_EdwardsNeg
import Voi.Gen.FL_CurveF64_EdwardsDouble
import Voi.Gen.FL_CurveF64_EdwardsMulByCofactor
import Voi.Gen.FL_CurveF64_EdwardsIdentity
import Voi.Gen.FL_CurveF64_EdwardsEqual
namespace Voi.Props.FL
open Voi.Spec Voi.Proofs Voi.Props.C07 Voi.Gen.CurveF64

local notation "toZ" => Voi.Props.C07.toZ

def extOfList (l : List Nat) : ExtK F25519 := ⟨toZ (l.getD 0 0), toZ (l.getD 1 0), toZ (l.getD 2 0), toZ (l.getD 3 0)⟩
def Ext.ofList (l : List Nat) : Ext := ⟨l.getD 0 0, l.getD 1 0, l.getD 2 0, l.getD 3 0⟩
theorem extToK_ofList (l : List Nat) : extToK (Ext.ofList l) = extOfList l := rfl

def zl (l : List Nat) (i : Nat) : F25519 := toZ (l.getD i 0)

/-- a completed point ((X:Z),(Y:T)) as the extended point `setCompleted` turns it into -/
def cmpToExt (c : List Nat) : ExtK F25519 := ⟨zl c 0 * zl c 3, zl c 1 * zl c 2, zl c 2 * zl c 3, zl c 0 * zl c 1⟩

/-- after unfolding a regenerated program: its outputs as a point over `ZMod p`, every field operation mapped by `toZ`
(attribute `fp`), the formulas of `Proofs/EdwardsExt` unfolded; `ring` then compares the coordinates -/
macro "fl_simp" : tactic => `(tactic| simp only [fp, extOfList, cmpToExt, zl, List.getD_cons_zero, List.getD_cons_succ,
  List.getD_nil, const_d2, ExtK.add, ExtK.dbl, ExtK.neg, ExtK.zero, ExtK.ofAffine, extToK])

theorem EdwardsAdd_eq (P Q : Ext) :
    extOfList (EdwardsAdd_sh P.X P.Y P.Z P.T Q.X Q.Y Q.Z Q.T) = ExtK.add (d25519 + d25519) (extToK P) (extToK Q) := by
  simp only [EdwardsAdd_sh]; fl_simp
  apply ExtK.ext' <;> ring

theorem EdwardsAdd_rep {P Q : Ext} {A B : Ed25519} (hP : Represents P A) (hQ : Represents Q B) :
    Represents (Ext.ofList (EdwardsAdd_sh P.X P.Y P.Z P.T Q.X Q.Y Q.Z Q.T)) (A + B) := by
  unfold Represents; rw [extToK_ofList, EdwardsAdd_eq]; exact ExtK.Rep.add hP hQ

theorem EdwardsSub_eq (P Q : Ext) :
    extOfList (EdwardsSub_sh P.X P.Y P.Z P.T Q.X Q.Y Q.Z Q.T) =
      ExtK.add (d25519 + d25519) (extToK P) (ExtK.neg (extToK Q)) := by
  simp only [EdwardsSub_sh]; fl_simp
  apply ExtK.ext' <;> ring

theorem EdwardsSub_rep {P Q : Ext} {A B : Ed25519} (hP : Represents P A) (hQ : Represents Q B) :
    Represents (Ext.ofList (EdwardsSub_sh P.X P.Y P.Z P.T Q.X Q.Y Q.Z Q.T)) (A - B) := by
  unfold Represents; rw [extToK_ofList, EdwardsSub_eq, sub_eq_add_neg]; exact ExtK.Rep.add hP (ExtK.Rep.neg hQ)

theorem EdwardsNeg_eq (P : Ext) : extOfList (EdwardsNeg_sh P.X P.Y P.Z P.T) = ExtK.neg (extToK P) := by
  simp only [EdwardsNeg_sh]; fl_simp

theorem EdwardsNeg_rep {P : Ext} {A : Ed25519} (hP : Represents P A) :
    Represents (Ext.ofList (EdwardsNeg_sh P.X P.Y P.Z P.T)) (-A) := by
  unfold Represents; rw [extToK_ofList, EdwardsNeg_eq]; exact ExtK.Rep.neg hP

/-- `(*EdwardsPoint).double` is dbl-2008-hwcd with every coordinate negated (the same projective point) -/
theorem EdwardsDouble_eq (P : Ext) :
    extOfList (EdwardsDouble_sh P.X P.Y P.Z P.T) =
      (let D := ExtK.dbl (extToK P); ⟨(-1) * D.X, (-1) * D.Y, (-1) * D.Z, (-1) * D.T⟩) := by
  simp only [EdwardsDouble_sh]; fl_simp
  apply ExtK.ext' <;> ring

theorem EdwardsDouble_rep {P : Ext} {A : Ed25519} (hP : Represents P A) :
    Represents (Ext.ofList (EdwardsDouble_sh P.X P.Y P.Z P.T)) (2 • A) := by
  unfold Represents; rw [extToK_ofList, EdwardsDouble_eq, two_nsmul]
  exact (ExtK.Rep.dbl hP).scale (neg_ne_zero.mpr one_ne_zero)

/-- the intermediate T coordinates are never computed in the code: `double` does not read T -/
theorem EdwardsMulByCofactor_eq_doubles (X Y Z T : Nat) :
    EdwardsMulByCofactor_sh X Y Z T =
      (let a := EdwardsDouble_sh X Y Z T
       let b := EdwardsDouble_sh (a.getD 0 0) (a.getD 1 0) (a.getD 2 0) (a.getD 3 0)
       EdwardsDouble_sh (b.getD 0 0) (b.getD 1 0) (b.getD 2 0) (b.getD 3 0)) := rfl

theorem EdwardsMulByCofactor_rep {P : Ext} {A : Ed25519} (hP : Represents P A) :
    Represents (Ext.ofList (EdwardsMulByCofactor_sh P.X P.Y P.Z P.T)) (8 • A) := by
  rw [EdwardsMulByCofactor_eq_doubles]
  have h1 := EdwardsDouble_rep hP
  have h2 := EdwardsDouble_rep h1
  have h3 := EdwardsDouble_rep h2
  have e : (8 : ℕ) • A = 2 • (2 • (2 • A)) := by rw [← mul_nsmul, ← mul_nsmul]
  rw [e]; exact h3

theorem EdwardsIdentity_rep : Represents (Ext.ofList EdwardsIdentity_sh) 0 := Represents.zero

open Classical in
theorem EdwardsEqual_iff {P Q : Ext} {A B : Ed25519} (hP : Represents P A) (hQ : Represents Q B) :
    EdwardsEqual_sh P.X P.Y P.Z P.T Q.X Q.Y Q.Z Q.T = [if A = B then 1 else 0] := by
  simp only [EdwardsEqual_sh, feq_eq, band_ite, toZ_mul]
  exact congrArg (fun n => [n]) (if_congr (ExtK.Rep.eq_iff hP hQ) rfl rfl)

end Voi.Props.FL

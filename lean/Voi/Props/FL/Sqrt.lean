/-
The regenerated `(*field.Element).SqrtRatioI` (internal/field/field.go, `go2ir -flevel`) returns what the specification
`Fp.sqrtRatioM1` returns, for all u, v, although the code uses a different formula (RFC 8032 erratum:
r = u·(uv)^((p−5)/8); the Spec follows RFC 9496: r = u v³ (u v⁷)^((p−5)/8)): the two candidate roots differ by a fourth
root of unity, and the three equality tests absorb the difference.  With `Proofs/SqrtRatio.sqrtRatioM1_contract` this
gives the documented (was-square, non-negative root) contract for the code as it is, which C10 (decompression) and C11
(Ristretto decoding) stand on.
-/
import Voi.Props.FL.Field
import Voi.Proofs.SqrtRatio
import Voi.Gen.FL_FieldF64_SqrtRatioI
import Voi.Gen.FL_FieldF64_InvSqrt
namespace Voi.Props.FL
open Voi.Spec Voi.Proofs Voi.Proofs.SqrtRatio Voi.FIR Voi.Gen.FieldF64
open Voi.Props.C07 hiding toZ

local notation "toZ" => Voi.Props.C07.toZ

/-- the body of SqrtRatioI around the exponentiation `t = (u v)^((p−5)/8)` -/
def sqrtTail (u v t : Nat) : List Nat :=
  let r0 := Fp.mul u t
  let c := Fp.mul (Fp.sq r0) v
  let nu := Fp.neg u
  let nui := Fp.mul nu Fp.sqrtM1
  let ok := feq c u
  let fl := feq c nu
  let fi := feq c nui
  let r1 := sel (bor fl fi) r0 (Fp.mul r0 Fp.sqrtM1)
  let r := sel (fisNeg r1) r1 (Fp.neg r1)
  [r, r, bor ok fl]

theorem bor_comm (a b : Nat) : bor a b = bor b a := Nat.or_comm a b

set_option linter.unusedSimpArgs false in
/-- with `bor_comm`, `simp` orders the operands of the two ORs the same way on both sides, so either order in the code
will do -/
theorem SqrtRatioI_decomp (u v : Nat) :
    SqrtRatioI_sh u v = sqrtTail u v ((pow_p58_sh (Fp.mul u v)).getD 0 0) := by
  unfold SqrtRatioI_sh sqrtTail pow_p58_sh
  simp only [List.getD_cons_zero, const_sqrtM1, bor_comm]

theorem abs_zero : Fp.abs 0 = 0 := fp_abs_zero

theorem sqrtTail_eq (u v t : Nat) (ht : toZ t = (toZ u * toZ v) ^ ((p - 5) / 8)) :
    sqrtTail u v t = [(Fp.sqrtRatioM1 u v).2, (Fp.sqrtRatioM1 u v).2, if (Fp.sqrtRatioM1 u v).1 then 1 else 0] := by
  unfold sqrtTail
  simp only []
  generalize hr0 : Fp.mul u t = r0
  have r0_lt : r0 < p := hr0 ▸ mul_lt _ _
  -- the tested value `c = v r0²` is `u T` with `T = (u v)^((p−1)/4)`
  have zc : toZ (Fp.mul (Fp.sq r0) v) = toZ u * (toZ u * toZ v) ^ ((p - 1) / 4) := by
    rw [toZ_mul, toZ_sq, ← hr0, toZ_mul, ht, ← exp_rel]; generalize (p - 5) / 8 = k; ring
  have vr : toZ v * toZ r0 ^ 2 = toZ u * (toZ u * toZ v) ^ ((p - 1) / 4) := by rw [← zc, toZ_mul, toZ_sq]; ring
  have sqrtM1_I : toZ Fp.sqrtM1 = I := rfl
  -- the predicate values as propositions about `T`
  simp only [feq_eq, bor_ite, sel_ite, zc, Voi.Props.C07.toZ_neg, toZ_mul, sqrtM1_I]
  by_cases hu : toZ u = 0
  · -- u ≡ 0: the first two tests succeed, the candidate is 0
    have z0 : Fp.mul r0 Fp.sqrtM1 = 0 := eq_zero_of_toZ (mul_lt _ _) (by rw [toZ_mul, ← hr0, toZ_mul, hu]; ring)
    simp only [sqrtRatioM1_u_zero v hu, hu, zero_mul, neg_zero, true_or, if_true, z0]
    decide
  by_cases hv : toZ v = 0
  · -- v ≡ 0, u ≢ 0: the candidate is 0, no test succeeds
    have z0 : r0 = 0 := eq_zero_of_toZ r0_lt (by rw [← hr0, toZ_mul, ht, hv, mul_zero, zero_pow (by decide), mul_zero])
    simp only [sqrtRatioM1_v_zero hu hv, hv, mul_zero, zero_pow (show (p - 1) / 4 ≠ 0 by decide), eq_comm (a := (0 : ZMod p)),
      neg_eq_zero, mul_eq_zero, hu, I_ne_zero, or_self, if_false, z0]
    decide
  -- the generic case: T is a fourth root of unity and the three tests read it off
  generalize hT' : (toZ u * toZ v) ^ ((p - 1) / 4) = T at vr ⊢
  have hT := pow_quarter_cases (mul_ne_zero hu hv) hT'
  have t1 : toZ u * T = toZ u ↔ T = 1 := by rw [← mul_right_inj' hu (b := T), mul_one]
  have t2 : toZ u * T = -toZ u ↔ T = -1 := by rw [← mul_right_inj' hu (b := T), mul_neg_one]
  have t3 : toZ u * T = -toZ u * I ↔ T = -I := by rw [← mul_right_inj' hu (b := T), neg_mul_comm]
  simp only [t1, t2, t3]
  have hr1 : (if T = -1 ∨ T = -I then Fp.mul r0 Fp.sqrtM1 else r0) < p := by split; exacts [mul_lt _ _, r0_lt]
  have h : toZ v * toZ (Fp.abs (if T = -1 ∨ T = -I then Fp.mul r0 Fp.sqrtM1 else r0)) ^ 2 =
      (if decide (T = 1 ∨ T = -1) = true then 1 else I) * toZ u := by
    simp only [decide_eq_true_eq, toZ_abs_sq, apply_ite toZ, toZ_mul]; exact root_of_candidate hT vr
  rw [sel_isNeg_eq_abs hr1, sqrtRatioM1_eq_of_sq hu hv (abs_lt _) (abs_nonneg _) h]
  simp only [decide_eq_true_eq]

/-- `(*field.Element).SqrtRatioI` as regenerated is SQRT_RATIO_M1 of the specification -/
theorem SqrtRatioI_eq (u v : Nat) :
    SqrtRatioI_sh u v = [(Fp.sqrtRatioM1 u v).2, (Fp.sqrtRatioM1 u v).2, if (Fp.sqrtRatioM1 u v).1 then 1 else 0] := by
  rw [SqrtRatioI_decomp]
  exact sqrtTail_eq u v _ (by rw [pow_p58_eq, toZ_mul])

/-- hence the summary instructions `sqrtV` / `sqrtOk` used where SqrtRatioI is called are exact -/
theorem SqrtRatioI_summary (u v : Nat) : SqrtRatioI_sh u v = [sqrtV u v, sqrtV u v, sqrtOk u v] := SqrtRatioI_eq u v

theorem InvSqrt_eq (x : Nat) : InvSqrt_sh x = [sqrtV 1 x, sqrtV 1 x, sqrtOk 1 x] := rfl

end Voi.Props.FL

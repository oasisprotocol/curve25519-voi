/-
The regenerated decompression and compression of Edwards points (curve/edwards.go: `(*EdwardsPoint).SetCompressedY`,
`(*CompressedEdwardsY).SetEdwardsPoint`) are the specification's `Pt.decode` / `Pt.encode` (RFC 8032 §5.1.2–5.1.3 as the
library documents them), for every 32-byte string resp. every representative; then the identity / small-order tests.
`SqrtRatioI` enters as the summary instruction whose exactness is `Sqrt.SqrtRatioI_summary`; `Invert` as
`Field.Invert_eq`.
-/
import Voi.Props.FL.Curve
import Voi.Props.BytesLemmas
import Voi.Gen.FL_CurveF64_SetCompressedY
import Voi.Gen.FL_CurveF64_CompressY
import Voi.Gen.FL_CurveF64_EdwardsIsIdentity
import Voi.Gen.FL_CurveF64_EdwardsIsSmallOrder
namespace Voi.Props.FL
open Voi Voi.Spec Voi.Proofs Voi.FIR Voi.Gen.CurveF64
open Voi.Props.C07 hiding toZ

local notation "toZ" => Voi.Props.C07.toZ

/-- C10: `(*EdwardsPoint).SetCompressedY` as regenerated is the specification's decoder: same accept/reject decision, and on
acceptance the point (x, y) as (x, y, 1, x·y) -/
theorem SetCompressedY_eq (b : Bytes) (hb : b.size = 32) :
    SetCompressedY_tsh (leNat b) =
      (Pt.decode b).map fun P => [P.x, P.y, 1, Fp.mul P.x P.y] := by
  unfold SetCompressedY_tsh Pt.decode
  generalize hsg : leNat b / 2 ^ 255 % 2 = sg
  have hsg2 : sg = 0 ∨ sg = 1 := by omega
  generalize hy : leNat b % 2 ^ 255 % p = y
  -- the instructions unfolded, both sides are an `if` over the same `sqrtRatioM1 (y² − 1) (d y² + 1)`; the code computes
  -- `y²·d` where the specification has `d·y²`, hence `fp_mul_comm _ Fp.d`
  simp only [hb, ne_eq, not_true_eq_false, if_false, const_d, FIR.fromBytes, FIR.sqrtV, FIR.sqrtOk, FIR.cond, FIR.topBit,
    FIR.sel, fp_mul_comm _ Fp.d]
  simp only [hsg, hy]
  generalize Fp.sqrtRatioM1 _ _ = sr
  obtain ⟨ok, x⟩ := sr
  cases ok
  · simp
  · rcases hsg2 with rfl | rfl <;> simp

theorem xorTop_eq {y : Nat} (hy : y < 2 ^ 255) {c : Nat} (hc : c ≤ 1) : xorTop y c = y + c * 2 ^ 255 := by
  unfold xorTop
  obtain rfl | rfl : c = 0 ∨ c = 1 := by omega
  · simp
  · rw [Nat.shiftLeft_eq, Nat.add_comm, Nat.mul_comm, Nat.two_pow_add_eq_or_of_lt hy 1, Nat.mul_one]
    apply Nat.eq_of_testBit_eq
    intro i
    rw [Nat.testBit_xor, Nat.testBit_or, Nat.testBit_two_pow, Bool.xor_comm]
    by_cases hi : 255 = i
    · subst hi; simp [Nat.testBit_lt_two_pow hy]
    · simp [hi]

/-- C10: `(*CompressedEdwardsY).SetEdwardsPoint` as regenerated is the specification's encoder on the affine point (X/Z, Y/Z) -/
theorem CompressY_eq (E : Ext) :
    CompressY_sh E.X E.Y E.Z E.T = [leNat (Pt.encode E.toPt)] := by
  unfold CompressY_sh Pt.encode Ext.toPt
  simp only [FIR.toBytes, FIR.fisNeg]
  congr 1
  rw [Voi.Props.Bytes.leNat_natLE]
  have hy : Fp.mul E.Y (Fp.inv E.Z) % p < 2 ^ 255 := Nat.lt_trans (mod_lt _) p_lt
  generalize Fp.mul E.Y (Fp.inv E.Z) % p = y at hy ⊢
  cases Fp.isNeg (Fp.mul E.X (Fp.inv E.Z))
  · rw [if_neg Bool.false_ne_true, if_neg Bool.false_ne_true, xorTop_eq hy (Nat.zero_le 1), Nat.mod_eq_of_lt (by omega)]
    omega
  · rw [if_pos rfl, if_pos rfl, xorTop_eq hy (Nat.le_refl 1), Nat.mod_eq_of_lt (by omega)]
    omega

set_option linter.unusedSimpArgs false in
open Classical in
/-- Whether the code calls `Equal` against (0 : 1 : 1 : 0) or tests `X = 0` and `Y = Z` directly, its predicate value reads
`X = 0 ∧ Y = Z` in `ZMod p`. -/
theorem EdwardsIsIdentity_iff {P : Ext} {A : Ed25519} (hP : Represents P A) :
    EdwardsIsIdentity_sh P.X P.Y P.Z P.T = [if A = 0 then 1 else 0] := by
  simp only [EdwardsIsIdentity_sh, feq_eq, fisZero_eq, band_ite, fp, mul_one, one_mul, zero_mul]
  exact congrArg (fun n => [n]) (if_congr (ExtK.Rep.isZero_iff hP) rfl rfl)

theorem EdwardsIsSmallOrder_comp (X Y Z T : Nat) :
    EdwardsIsSmallOrder_sh X Y Z T =
      EdwardsIsIdentity_sh (Ext.ofList (EdwardsMulByCofactor_sh X Y Z T)).X (Ext.ofList (EdwardsMulByCofactor_sh X Y Z T)).Y
        (Ext.ofList (EdwardsMulByCofactor_sh X Y Z T)).Z (Ext.ofList (EdwardsMulByCofactor_sh X Y Z T)).T := rfl

open Classical in
theorem EdwardsIsSmallOrder_iff {P : Ext} {A : Ed25519} (hP : Represents P A) :
    EdwardsIsSmallOrder_sh P.X P.Y P.Z P.T = [if (8 : ℕ) • A = 0 then 1 else 0] := by
  have h := EdwardsIsIdentity_iff (EdwardsMulByCofactor_rep hP)
  rw [EdwardsIsSmallOrder_comp]
  exact h

end Voi.Props.FL

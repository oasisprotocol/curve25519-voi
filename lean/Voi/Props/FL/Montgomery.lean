/-
The regenerated functions of curve/montgomery.go: the ladder step `montgomeryDifferentialAddAndDouble` and the
conversions `(*MontgomeryPoint).SetEdwards`, `fromProjective` are the corresponding functions of the code-shaped model
`Model.Montgomery` (which `Props/C07` relates to RFC 7748); `(*EdwardsPoint).SetMontgomery` decomposes into the
birational map and the regenerated `SetCompressedY`.
-/
import Voi.Props.FL.Encoding
import Voi.Model.Montgomery
import Voi.Gen.FL_CurveF64_MontgomerySetEdwards
import Voi.Gen.FL_CurveF64_MontgomeryFromProjective
import Voi.Gen.FL_CurveF64_SetMontgomery
import Voi.Gen.FL_CurveF64_MontgomeryStep
namespace Voi.Props.FL
open Voi Voi.Spec Voi.FIR Voi.Gen.CurveF64 Voi.Model.Montgomery
open Voi.Props.C07 hiding toZ

theorem MontgomeryStep_eq (PU PW QU QW a : Nat) :
    MontgomeryStep_sh PU PW QU QW a =
      (let r := Voi.Model.Montgomery.diffAddAndDouble ⟨PU, PW⟩ ⟨QU, QW⟩ a; [r.1.U, r.1.W, r.2.U, r.2.W]) := by
  -- componentwise: both sides are reduced and have the same value in `ZMod p` (`ring` only runs where they are not
  -- already the same expression), so the grouping and the operand order in the code do not matter
  refine list4_ext ?_ ?_ ?_ ?_ <;> simp only [Voi.Model.Montgomery.diffAddAndDouble] <;>
    exact toZ_inj (by simp only [fp]) (by simp only [fp])
      (by simp only [fp, Voi.Model.Montgomery.mul121666] <;> ring)


theorem leNat_feToBytes (a : Nat) : leNat (feToBytes a) = a % p := by
  unfold feToBytes
  rw [Voi.Props.Bytes.leNat_natLE]
  have hp := p_lt
  have := mod_lt a
  exact Nat.mod_eq_of_lt (by omega)

theorem MontgomerySetEdwards_eq (E : Ext) :
    MontgomerySetEdwards_sh E.X E.Y E.Z E.T = [leNat (setEdwards E)] := by
  unfold MontgomerySetEdwards_sh setEdwards
  simp only [FIR.toBytes, leNat_feToBytes]

theorem MontgomeryFromProjective_eq (U W : Nat) :
    MontgomeryFromProjective_sh U W = [leNat (fromProjective ⟨U, W⟩)] := by
  unfold MontgomeryFromProjective_sh fromProjective
  simp only [FIR.toBytes, leNat_feToBytes]

/-- reject u = −1 (the numeral), otherwise the regenerated `SetCompressedY` (= `Pt.decode`, `Encoding.SetCompressedY_eq`) on
the encoding of y = (u − 1)/(u + 1) with the requested sign bit -/
theorem SetMontgomery_decomp (n s : Nat) :
    SetMontgomery_tsh n s =
      if FIR.cond (feq (fromBytes n) 57896044618658097711785492504343953926634992332820282019728792003956564819948) false then none
      else SetCompressedY_tsh (xorTop (toBytes (Fp.mul (Fp.sub (fromBytes n) 1) (Fp.inv (Fp.add (fromBytes n) 1)))) s) := by
  unfold SetMontgomery_tsh SetCompressedY_tsh
  simp only []

end Voi.Props.FL

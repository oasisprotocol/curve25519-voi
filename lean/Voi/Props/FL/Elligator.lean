/-
C14: the regenerated `montgomeryFlavor` (internal/elligator/elligator2.go: Elligator 2 onto the Montgomery curve) is the
code-shaped model `Model.H2C.montgomeryFlavor`, which `Props/C14/Elligator` proves equal to RFC 9380's map for every
representative.  The regenerated `EdwardsFlavor` is that function followed by the birational map and `SetEdwardsFromXY`
with its `panic` (`EdwardsFlavor_decomp`).
-/
import Voi.Props.FL.Field
import Voi.Model.H2C
import Voi.Gen.FL_ElligatorF64_montgomeryFlavor
import Voi.Gen.FL_ElligatorF64_EdwardsFlavor
namespace Voi.Props.FL
open Voi Voi.Spec Voi.FIR Voi.Model.H2C
open Voi.Props.C07 hiding toZ

theorem sq2_eq (a : Nat) : FIR.sq2 a = feSquare2 a := by
  unfold FIR.sq2 feSquare2; rw [fp_two_mul]

theorem sel_eq_assign (c : Bool) (a b : Nat) : FIR.sel (if c then 1 else 0) a b = feConditionalAssign a b (b2i c) := by
  cases c <;> rfl

theorem feInvSqrt_eq (a : Nat) : feInvSqrt a = ((Fp.sqrtRatioM1 1 a).2, b2i (Fp.sqrtRatioM1 1 a).1) := by
  unfold feInvSqrt
  generalize Fp.sqrtRatioM1 1 a = sr
  obtain ⟨ok, r⟩ := sr
  rfl

theorem ite_flip (b : Bool) (x y : Nat) : (if b = false then x else y) = if b = true then y else x := by cases b <;> rfl

theorem montgomeryFlavor_eq (r : Nat) :
    Voi.Gen.ElligatorF64.montgomeryFlavor_sh r = [(montgomeryFlavor r).1, (montgomeryFlavor r).2] := by
  unfold Voi.Gen.ElligatorF64.montgomeryFlavor_sh montgomeryFlavor
  have cA2 : (236839902244 : Nat) = constMONTGOMERY_A_SQUARED := by decide +kernel
  have cA : (486662 : Nat) = constMONTGOMERY_A := rfl
  have cU : (18533721865243085798171333894366869895742859300972501694240749857708905250445 : Nat) = constMONTGOMERY_U_FACTOR := rfl
  have cV : (38214883241950591754978413199355411911188925816896391856984770930832735035198 : Nat) = constMONTGOMERY_V_FACTOR := rfl
  have cNA : (57896044618658097711785492504343953926634992332820282019728792003956564333287 : Nat) = constMONTGOMERY_NEG_A := by
    decide +kernel
  simp only [sq2_eq, feInvSqrt_eq, sqrtV, sqrtOk, fieldOne, feIsNegative, fisNeg]
  rw [cA2, cU, cV, cNA]
  simp only [cA]
  generalize Fp.sqrtRatioM1 1 _ = sr
  obtain ⟨ok, s⟩ := sr
  simp only [sel_eq_assign]
  -- `simp only` does not evaluate `^^^` on numerals: the four entries of its table
  have x00 : (0 ^^^ 0 : Nat) = 0 := rfl
  have x01 : (0 ^^^ 1 : Nat) = 1 := rfl
  have x10 : (1 ^^^ 0 : Nat) = 1 := rfl
  have x11 : (1 ^^^ 1 : Nat) = 0 := rfl
  cases ok
  · simp only [b2i, feConditionalAssign, feConditionalNegate, FIR.sel, Bool.false_eq_true, if_false, Nat.zero_ne_one]
    generalize Fp.isNeg _ = ng
    cases ng
    · simp only [Bool.false_eq_true, if_false, FIR.bxor, x00, if_true, Nat.zero_ne_one]
    · simp only [if_true, FIR.bxor, x01, Nat.one_ne_zero, if_false]
  · simp only [b2i, feConditionalAssign, feConditionalNegate, FIR.sel, if_true, Nat.one_ne_zero, if_false]
    generalize Fp.isNeg _ = ng
    cases ng
    · simp only [Bool.false_eq_true, if_false, FIR.bxor, x10, if_true, Nat.one_ne_zero]
    · simp only [if_true, FIR.bxor, x11, Nat.zero_ne_one, if_false]

/-- decompression with the `panic` of `SetEdwardsFromXY` as the leaf `some []` (same shape as the regenerated code; the
numeral is `Fp.d`, `Field.const_d`) -/
def decompressOrPanic (n : Nat) : Option (List Nat) :=
  let y := fromBytes n
  let yy := Fp.sq y
  let u := Fp.sub yy 1
  let v := Fp.add (Fp.mul yy 37095705934669439343138083508754565189542113879843219016388785533085940283555) 1
  let x := sqrtV u v
  let ok := sqrtOk u v
  if FIR.cond ok true then some []
  else
    let s := topBit n
    let x' := FIR.sel s x (Fp.neg x)
    some [x', y, 1, Fp.mul x' y]

/-- the part of `EdwardsFlavor` after `montgomeryFlavor`: birational map, exceptional cases, then `SetEdwardsFromXY`
(encode y, put the sign of x into bit 255, decompress); the numeral is `constMONTGOMERY_SQRT_NEG_A_PLUS_TWO` of Model/H2C -/
def edwardsTail (u v : Nat) : Option (List Nat) :=
  let x := Fp.mul (Fp.mul (Fp.inv v) u) 6853475219497561581579357271197624642482790079785650197046958215289687604742
  let uPlusOne := Fp.add u 1
  let y := Fp.mul (Fp.sub u 1) (Fp.inv uPlusOne)
  let undef := FIR.bor (fisZero uPlusOne) (fisZero v)
  let x' := FIR.sel undef x 0
  let y' := FIR.sel undef y 1
  decompressOrPanic (xorTop (toBytes y') (fisNeg x'))

theorem EdwardsFlavor_decomp (r : Nat) :
    Voi.Gen.ElligatorF64.EdwardsFlavor_tsh r =
      edwardsTail ((Voi.Gen.ElligatorF64.montgomeryFlavor_sh r).getD 0 0) ((Voi.Gen.ElligatorF64.montgomeryFlavor_sh r).getD 1 0) := by
  unfold Voi.Gen.ElligatorF64.EdwardsFlavor_tsh edwardsTail decompressOrPanic Voi.Gen.ElligatorF64.montgomeryFlavor_sh
  simp only [List.getD_cons_zero, List.getD_cons_succ]

end Voi.Props.FL

/-
GENERATED by lib/fllink.py (committed).  The contracts of the reducing arithmetic leaves of the 32-bit backend (10 limbs of
26/25 bits), each derived from the kernel-checked L0 obligation about the REGENERATED limb program and `IR.check_sound`:
limbs within the contract's precondition ⇒ limbs within its postcondition whose radix-2^25.5 value is the field operation
modulo p.  That is what the fields `Impl.*_ok` of `FIR.brun_sound` ask for, with the entries of `Bounds.C32` written out
(no theorem compares them with the table, and no `Impl C32` is built).  As in `Link`, every contract is `IR.check_congr`
read in the backend's radix (`lincomb_radix2625`, `val_fe32`).
-/
import Voi.Props.FL.Link
import Voi.Props.L0.FieldU32_Mul
import Voi.Props.L0.FieldU32_Pow2k1
import Voi.Props.L0.FieldU32_Sub
import Voi.Props.L0.FieldU32_Neg
import Voi.Props.L0.FieldU32_Mul121666
import Voi.Props.L0.FieldU32_Square2
import Voi.Gen.IR_FieldU32_Add
namespace Voi.Props.FL.Link32
open Voi.IR Voi.Props.L0 Voi.Props.FL.Bounds

/-- radix-2^25.5 value of ten limbs -/
def v32 (x0 x1 x2 x3 x4 x5 x6 x7 x8 x9 : Nat) : Int :=
  x0 + 2^26 * x1 + 2^51 * x2 + 2^77 * x3 + 2^102 * x4 + 2^128 * x5 + 2^153 * x6 + 2^179 * x7 + 2^204 * x8 + 2^230 * (x9 : Int)

theorem fe32_0 : Spec.fe32 0 = [((2:Int)^0, [Atom.var 0]), ((2:Int)^26, [Atom.var 1]), ((2:Int)^51, [Atom.var 2]), ((2:Int)^77, [Atom.var 3]), ((2:Int)^102, [Atom.var 4]), ((2:Int)^128, [Atom.var 5]), ((2:Int)^153, [Atom.var 6]), ((2:Int)^179, [Atom.var 7]), ((2:Int)^204, [Atom.var 8]), ((2:Int)^230, [Atom.var 9])] := rfl
theorem fe32_10 : Spec.fe32 10 = [((2:Int)^0, [Atom.var 10]), ((2:Int)^26, [Atom.var 11]), ((2:Int)^51, [Atom.var 12]), ((2:Int)^77, [Atom.var 13]), ((2:Int)^102, [Atom.var 14]), ((2:Int)^128, [Atom.var 15]), ((2:Int)^153, [Atom.var 16]), ((2:Int)^179, [Atom.var 17]), ((2:Int)^204, [Atom.var 18]), ((2:Int)^230, [Atom.var 19])] := rfl

theorem lincomb_radix2625 (e : Env) : ∀ {os : List Nat}, os.length = 10 → lincomb e (weights radix2625) os =
    v32 (get e (os.getD 0 0)) (get e (os.getD 1 0)) (get e (os.getD 2 0)) (get e (os.getD 3 0)) (get e (os.getD 4 0)) (get e (os.getD 5 0)) (get e (os.getD 6 0)) (get e (os.getD 7 0)) (get e (os.getD 8 0)) (get e (os.getD 9 0))
  | [o0, o1, o2, o3, o4, o5, o6, o7, o8, o9], _ => by
    simp only [lincomb, weights, radix2625, List.map, v32, List.getD_cons_zero, List.getD_cons_succ]
    ring

theorem val_fe32 (e : Env) (k : Nat) : (Spec.fe32 k).val e =
    v32 (get e (k + 0)) (get e (k + 1)) (get e (k + 2)) (get e (k + 3)) (get e (k + 4)) (get e (k + 5)) (get e (k + 6)) (get e (k + 7)) (get e (k + 8)) (get e (k + 9)) := by
  rw [Spec.fe32, Link.val_linW]; exact lincomb_radix2625 e rfl


theorem feMul_meets_contract (a0 a1 a2 a3 a4 a5 a6 a7 a8 a9 b0 b1 b2 b3 b4 b5 b6 b7 b8 b9 : Nat)
    (ha0 : a0 ≤ 226050910)
    (ha1 : a1 ≤ 113025455)
    (ha2 : a2 ≤ 226050910)
    (ha3 : a3 ≤ 113025455)
    (ha4 : a4 ≤ 226050910)
    (ha5 : a5 ≤ 113025455)
    (ha6 : a6 ≤ 226050910)
    (ha7 : a7 ≤ 113025455)
    (ha8 : a8 ≤ 226050910)
    (ha9 : a9 ≤ 113025455)
    (hb0 : b0 ≤ 226050910)
    (hb1 : b1 ≤ 113025455)
    (hb2 : b2 ≤ 226050910)
    (hb3 : b3 ≤ 113025455)
    (hb4 : b4 ≤ 226050910)
    (hb5 : b5 ≤ 113025455)
    (hb6 : b6 ≤ 226050910)
    (hb7 : b7 ≤ 113025455)
    (hb8 : b8 ≤ 226050910)
    (hb9 : b9 ≤ 113025455) :
    let e := run Voi.Gen.FieldU32.Mul_prog [a0, a1, a2, a3, a4, a5, a6, a7, a8, a9, b0, b1, b2, b3, b4, b5, b6, b7, b8, b9]
    (∀ j, j < 10 → get e (Voi.Gen.FieldU32.Mul_outs.getD j 0) ≤ if j % 2 = 0 then 2^26 - 1 else 2^25 + 2^13) ∧
    (v32 (get e (Voi.Gen.FieldU32.Mul_outs.getD 0 0)) (get e (Voi.Gen.FieldU32.Mul_outs.getD 1 0)) (get e (Voi.Gen.FieldU32.Mul_outs.getD 2 0)) (get e (Voi.Gen.FieldU32.Mul_outs.getD 3 0)) (get e (Voi.Gen.FieldU32.Mul_outs.getD 4 0)) (get e (Voi.Gen.FieldU32.Mul_outs.getD 5 0)) (get e (Voi.Gen.FieldU32.Mul_outs.getD 6 0)) (get e (Voi.Gen.FieldU32.Mul_outs.getD 7 0)) (get e (Voi.Gen.FieldU32.Mul_outs.getD 8 0)) (get e (Voi.Gen.FieldU32.Mul_outs.getD 9 0)) - v32 a0 a1 a2 a3 a4 a5 a6 a7 a8 a9 * v32 b0 b1 b2 b3 b4 b5 b6 b7 b8 b9) % (2^255 - 19) = 0 := by
  intro e
  obtain ⟨hb, hv⟩ := check_congr FieldU32_Mul rfl
    (.cons_le ha0 <| .cons_le ha1 <| .cons_le ha2 <| .cons_le ha3 <| .cons_le ha4 <|
     .cons_le ha5 <| .cons_le ha6 <| .cons_le ha7 <| .cons_le ha8 <| .cons_le ha9 <|
     .cons_le hb0 <| .cons_le hb1 <| .cons_le hb2 <| .cons_le hb3 <| .cons_le hb4 <|
     .cons_le hb5 <| .cons_le hb6 <| .cons_le hb7 <| .cons_le hb8 <| .cons_le hb9 .nil)
  refine ⟨fun j hj => Nat.le_trans (hb j hj) ?_, ?_⟩
  · revert j; decide
  · rw [lincomb_radix2625 _ rfl, Poly.val_mul, val_fe32, val_fe32] at hv
    exact hv


theorem feSquare_meets_contract (a0 a1 a2 a3 a4 a5 a6 a7 a8 a9 : Nat)
    (ha0 : a0 ≤ 226050910)
    (ha1 : a1 ≤ 113025455)
    (ha2 : a2 ≤ 226050910)
    (ha3 : a3 ≤ 113025455)
    (ha4 : a4 ≤ 226050910)
    (ha5 : a5 ≤ 113025455)
    (ha6 : a6 ≤ 226050910)
    (ha7 : a7 ≤ 113025455)
    (ha8 : a8 ≤ 226050910)
    (ha9 : a9 ≤ 113025455) :
    let e := run Voi.Gen.FieldU32.Pow2k1_prog [a0, a1, a2, a3, a4, a5, a6, a7, a8, a9]
    (∀ j, j < 10 → get e (Voi.Gen.FieldU32.Pow2k1_outs.getD j 0) ≤ if j % 2 = 0 then 2^26 - 1 else 2^25 + 2^13) ∧
    (v32 (get e (Voi.Gen.FieldU32.Pow2k1_outs.getD 0 0)) (get e (Voi.Gen.FieldU32.Pow2k1_outs.getD 1 0)) (get e (Voi.Gen.FieldU32.Pow2k1_outs.getD 2 0)) (get e (Voi.Gen.FieldU32.Pow2k1_outs.getD 3 0)) (get e (Voi.Gen.FieldU32.Pow2k1_outs.getD 4 0)) (get e (Voi.Gen.FieldU32.Pow2k1_outs.getD 5 0)) (get e (Voi.Gen.FieldU32.Pow2k1_outs.getD 6 0)) (get e (Voi.Gen.FieldU32.Pow2k1_outs.getD 7 0)) (get e (Voi.Gen.FieldU32.Pow2k1_outs.getD 8 0)) (get e (Voi.Gen.FieldU32.Pow2k1_outs.getD 9 0)) - v32 a0 a1 a2 a3 a4 a5 a6 a7 a8 a9 * v32 a0 a1 a2 a3 a4 a5 a6 a7 a8 a9) % (2^255 - 19) = 0 := by
  intro e
  obtain ⟨hb, hv⟩ := check_congr FieldU32_Pow2k1 rfl
    (.cons_le ha0 <| .cons_le ha1 <| .cons_le ha2 <| .cons_le ha3 <| .cons_le ha4 <|
     .cons_le ha5 <| .cons_le ha6 <| .cons_le ha7 <| .cons_le ha8 <| .cons_le ha9 .nil)
  refine ⟨fun j hj => Nat.le_trans (hb j hj) ?_, ?_⟩
  · revert j; decide
  · rw [lincomb_radix2625 _ rfl, Poly.val_mul, val_fe32] at hv
    exact hv


theorem feMul121666_meets_contract (a0 a1 a2 a3 a4 a5 a6 a7 a8 a9 : Nat)
    (ha0 : a0 ≤ 226050910)
    (ha1 : a1 ≤ 113025455)
    (ha2 : a2 ≤ 226050910)
    (ha3 : a3 ≤ 113025455)
    (ha4 : a4 ≤ 226050910)
    (ha5 : a5 ≤ 113025455)
    (ha6 : a6 ≤ 226050910)
    (ha7 : a7 ≤ 113025455)
    (ha8 : a8 ≤ 226050910)
    (ha9 : a9 ≤ 113025455) :
    let e := run Voi.Gen.FieldU32.Mul121666_prog [a0, a1, a2, a3, a4, a5, a6, a7, a8, a9]
    (∀ j, j < 10 → get e (Voi.Gen.FieldU32.Mul121666_outs.getD j 0) ≤ if j % 2 = 0 then 2^26 - 1 else 2^25 + 2^13) ∧
    (v32 (get e (Voi.Gen.FieldU32.Mul121666_outs.getD 0 0)) (get e (Voi.Gen.FieldU32.Mul121666_outs.getD 1 0)) (get e (Voi.Gen.FieldU32.Mul121666_outs.getD 2 0)) (get e (Voi.Gen.FieldU32.Mul121666_outs.getD 3 0)) (get e (Voi.Gen.FieldU32.Mul121666_outs.getD 4 0)) (get e (Voi.Gen.FieldU32.Mul121666_outs.getD 5 0)) (get e (Voi.Gen.FieldU32.Mul121666_outs.getD 6 0)) (get e (Voi.Gen.FieldU32.Mul121666_outs.getD 7 0)) (get e (Voi.Gen.FieldU32.Mul121666_outs.getD 8 0)) (get e (Voi.Gen.FieldU32.Mul121666_outs.getD 9 0)) - 121666 * v32 a0 a1 a2 a3 a4 a5 a6 a7 a8 a9) % (2^255 - 19) = 0 := by
  intro e
  obtain ⟨hb, hv⟩ := check_congr FieldU32_Mul121666 rfl
    (.cons_le ha0 <| .cons_le ha1 <| .cons_le ha2 <| .cons_le ha3 <| .cons_le ha4 <|
     .cons_le ha5 <| .cons_le ha6 <| .cons_le ha7 <| .cons_le ha8 <| .cons_le ha9 .nil)
  refine ⟨fun j hj => Nat.le_trans (hb j hj) ?_, ?_⟩
  · revert j; decide
  · rw [lincomb_radix2625 _ rfl, Poly.val_scale, val_fe32] at hv
    exact hv


theorem feSquare2_meets_contract (a0 a1 a2 a3 a4 a5 a6 a7 a8 a9 : Nat)
    (ha0 : a0 ≤ 226050910)
    (ha1 : a1 ≤ 113025455)
    (ha2 : a2 ≤ 226050910)
    (ha3 : a3 ≤ 113025455)
    (ha4 : a4 ≤ 226050910)
    (ha5 : a5 ≤ 113025455)
    (ha6 : a6 ≤ 226050910)
    (ha7 : a7 ≤ 113025455)
    (ha8 : a8 ≤ 226050910)
    (ha9 : a9 ≤ 113025455) :
    let e := run Voi.Gen.FieldU32.Square2_prog [a0, a1, a2, a3, a4, a5, a6, a7, a8, a9]
    (∀ j, j < 10 → get e (Voi.Gen.FieldU32.Square2_outs.getD j 0) ≤ if j % 2 = 0 then 2^26 - 1 else 2^25 + 2^13) ∧
    (v32 (get e (Voi.Gen.FieldU32.Square2_outs.getD 0 0)) (get e (Voi.Gen.FieldU32.Square2_outs.getD 1 0)) (get e (Voi.Gen.FieldU32.Square2_outs.getD 2 0)) (get e (Voi.Gen.FieldU32.Square2_outs.getD 3 0)) (get e (Voi.Gen.FieldU32.Square2_outs.getD 4 0)) (get e (Voi.Gen.FieldU32.Square2_outs.getD 5 0)) (get e (Voi.Gen.FieldU32.Square2_outs.getD 6 0)) (get e (Voi.Gen.FieldU32.Square2_outs.getD 7 0)) (get e (Voi.Gen.FieldU32.Square2_outs.getD 8 0)) (get e (Voi.Gen.FieldU32.Square2_outs.getD 9 0)) - 2 * (v32 a0 a1 a2 a3 a4 a5 a6 a7 a8 a9 * v32 a0 a1 a2 a3 a4 a5 a6 a7 a8 a9)) % (2^255 - 19) = 0 := by
  intro e
  obtain ⟨hb, hv⟩ := check_congr FieldU32_Square2 rfl
    (.cons_le ha0 <| .cons_le ha1 <| .cons_le ha2 <| .cons_le ha3 <| .cons_le ha4 <|
     .cons_le ha5 <| .cons_le ha6 <| .cons_le ha7 <| .cons_le ha8 <| .cons_le ha9 .nil)
  refine ⟨fun j hj => Nat.le_trans (hb j hj) ?_, ?_⟩
  · revert j; decide
  · rw [lincomb_radix2625 _ rfl, Poly.val_scale, Poly.val_mul, val_fe32] at hv
    exact hv


theorem feNeg_meets_contract (a0 a1 a2 a3 a4 a5 a6 a7 a8 a9 : Nat)
    (ha0 : a0 ≤ 1073741520)
    (ha1 : a1 ≤ 536870896)
    (ha2 : a2 ≤ 1073741808)
    (ha3 : a3 ≤ 536870896)
    (ha4 : a4 ≤ 1073741808)
    (ha5 : a5 ≤ 536870896)
    (ha6 : a6 ≤ 1073741808)
    (ha7 : a7 ≤ 536870896)
    (ha8 : a8 ≤ 1073741808)
    (ha9 : a9 ≤ 536870896) :
    let e := run Voi.Gen.FieldU32.Neg_prog [a0, a1, a2, a3, a4, a5, a6, a7, a8, a9]
    (∀ j, j < 10 → get e (Voi.Gen.FieldU32.Neg_outs.getD j 0) ≤ if j % 2 = 0 then 2^26 - 1 else 2^25 + 2^13) ∧
    (v32 (get e (Voi.Gen.FieldU32.Neg_outs.getD 0 0)) (get e (Voi.Gen.FieldU32.Neg_outs.getD 1 0)) (get e (Voi.Gen.FieldU32.Neg_outs.getD 2 0)) (get e (Voi.Gen.FieldU32.Neg_outs.getD 3 0)) (get e (Voi.Gen.FieldU32.Neg_outs.getD 4 0)) (get e (Voi.Gen.FieldU32.Neg_outs.getD 5 0)) (get e (Voi.Gen.FieldU32.Neg_outs.getD 6 0)) (get e (Voi.Gen.FieldU32.Neg_outs.getD 7 0)) (get e (Voi.Gen.FieldU32.Neg_outs.getD 8 0)) (get e (Voi.Gen.FieldU32.Neg_outs.getD 9 0)) - (-1) * v32 a0 a1 a2 a3 a4 a5 a6 a7 a8 a9) % (2^255 - 19) = 0 := by
  intro e
  obtain ⟨hb, hv⟩ := check_congr FieldU32_Neg rfl
    (.cons_le ha0 <| .cons_le ha1 <| .cons_le ha2 <| .cons_le ha3 <| .cons_le ha4 <|
     .cons_le ha5 <| .cons_le ha6 <| .cons_le ha7 <| .cons_le ha8 <| .cons_le ha9 .nil)
  refine ⟨fun j hj => Nat.le_trans (hb j hj) ?_, ?_⟩
  · revert j; decide
  · rw [lincomb_radix2625 _ rfl, Poly.val_scale, val_fe32] at hv
    exact hv


theorem feSub_meets_contract (a0 a1 a2 a3 a4 a5 a6 a7 a8 a9 b0 b1 b2 b3 b4 b5 b6 b7 b8 b9 : Nat)
    (ha0 : a0 ≤ 3221225471)
    (ha1 : a1 ≤ 3221225471)
    (ha2 : a2 ≤ 3221225471)
    (ha3 : a3 ≤ 3221225471)
    (ha4 : a4 ≤ 3221225471)
    (ha5 : a5 ≤ 3221225471)
    (ha6 : a6 ≤ 3221225471)
    (ha7 : a7 ≤ 3221225471)
    (ha8 : a8 ≤ 3221225471)
    (ha9 : a9 ≤ 3221225471)
    (hb0 : b0 ≤ 1073741520)
    (hb1 : b1 ≤ 536870896)
    (hb2 : b2 ≤ 1073741808)
    (hb3 : b3 ≤ 536870896)
    (hb4 : b4 ≤ 1073741808)
    (hb5 : b5 ≤ 536870896)
    (hb6 : b6 ≤ 1073741808)
    (hb7 : b7 ≤ 536870896)
    (hb8 : b8 ≤ 1073741808)
    (hb9 : b9 ≤ 536870896) :
    let e := run Voi.Gen.FieldU32.Sub_prog [a0, a1, a2, a3, a4, a5, a6, a7, a8, a9, b0, b1, b2, b3, b4, b5, b6, b7, b8, b9]
    (∀ j, j < 10 → get e (Voi.Gen.FieldU32.Sub_outs.getD j 0) ≤ if j % 2 = 0 then 2^26 - 1 else 2^25 + 2^13) ∧
    (v32 (get e (Voi.Gen.FieldU32.Sub_outs.getD 0 0)) (get e (Voi.Gen.FieldU32.Sub_outs.getD 1 0)) (get e (Voi.Gen.FieldU32.Sub_outs.getD 2 0)) (get e (Voi.Gen.FieldU32.Sub_outs.getD 3 0)) (get e (Voi.Gen.FieldU32.Sub_outs.getD 4 0)) (get e (Voi.Gen.FieldU32.Sub_outs.getD 5 0)) (get e (Voi.Gen.FieldU32.Sub_outs.getD 6 0)) (get e (Voi.Gen.FieldU32.Sub_outs.getD 7 0)) (get e (Voi.Gen.FieldU32.Sub_outs.getD 8 0)) (get e (Voi.Gen.FieldU32.Sub_outs.getD 9 0)) - (v32 a0 a1 a2 a3 a4 a5 a6 a7 a8 a9 + (-1) * v32 b0 b1 b2 b3 b4 b5 b6 b7 b8 b9)) % (2^255 - 19) = 0 := by
  intro e
  obtain ⟨hb, hv⟩ := check_congr FieldU32_Sub rfl
    (.cons_le ha0 <| .cons_le ha1 <| .cons_le ha2 <| .cons_le ha3 <| .cons_le ha4 <|
     .cons_le ha5 <| .cons_le ha6 <| .cons_le ha7 <| .cons_le ha8 <| .cons_le ha9 <|
     .cons_le hb0 <| .cons_le hb1 <| .cons_le hb2 <| .cons_le hb3 <| .cons_le hb4 <|
     .cons_le hb5 <| .cons_le hb6 <| .cons_le hb7 <| .cons_le hb8 <| .cons_le hb9 .nil)
  refine ⟨fun j hj => Nat.le_trans (hb j hj) ?_, ?_⟩
  · revert j; decide
  · rw [lincomb_radix2625 _ rfl, Poly.val_add, Poly.val_scale, val_fe32, val_fe32] at hv
    exact hv


/-- `Add` (as regenerated) adds limb by limb in 32-bit words -/
theorem feAdd_limbwise (a0 a1 a2 a3 a4 a5 a6 a7 a8 a9 b0 b1 b2 b3 b4 b5 b6 b7 b8 b9 : Nat) :
    Voi.Gen.FieldU32.Add_outs.map (Voi.IR.get (run Voi.Gen.FieldU32.Add_prog [a0, a1, a2, a3, a4, a5, a6, a7, a8, a9, b0, b1, b2, b3, b4, b5, b6, b7, b8, b9])) =
      [(a0 + b0) % 2^32, (a1 + b1) % 2^32, (a2 + b2) % 2^32, (a3 + b3) % 2^32, (a4 + b4) % 2^32, (a5 + b5) % 2^32, (a6 + b6) % 2^32, (a7 + b7) % 2^32, (a8 + b8) % 2^32, (a9 + b9) % 2^32] := by
  simp only [Voi.Gen.FieldU32.Add_outs, Voi.Gen.FieldU32.Add_prog, run, Op.eval, Voi.IR.get, List.map, List.cons_append,
    List.nil_append, List.getD_cons_zero, List.getD_cons_succ]


end Voi.Props.FL.Link32

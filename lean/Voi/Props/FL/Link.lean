/-
The contract table of the field level is what the L0 obligations prove, spelled out for the reducing arithmetic leaves of
the 64-bit backend: from the kernel-checked obligation about the regenerated limb program of each leaf (`L0.FieldU64_*`) and
`IR.check_sound`, for all limbs within the leaf's precondition in `Bounds.C64` (`contract_bounds`) the regenerated program
returns limbs within the postcondition whose radix-2^51 value is the field operation on the operands' values modulo p.
That is what the fields `Impl.*_ok` of `FIR.brun_sound` ask for, here for limbs given one by one; no `Impl C64` is built
from these theorems.

Every contract is `IR.check_congr` read in the backend's radix: `lincomb_radix51` turns the weighted sum the checker compares
into `v51` of the outputs, `val_fe64` the specification's polynomial into `v51` of the inputs.
-/
import Mathlib.Tactic.Ring
import Voi.Props.L0.FieldU64_feMulGeneric
import Voi.Props.L0.FieldU64_fePow2kGeneric1
import Voi.Props.L0.FieldU64_Sub
import Voi.Props.L0.FieldU64_Neg
import Voi.Props.L0.FieldU64_Mul121666
import Voi.Props.L0.FieldU64_Square2
import Voi.Gen.IR_FieldU64_Add
import Voi.Props.FL.Bounds
namespace Voi.Props.FL.Link
open Voi.IR Voi.Props.L0 Voi.Props.FL.Bounds

def v51 (x0 x1 x2 x3 x4 : Nat) : Int := x0 + 2^51 * x1 + 2^102 * x2 + 2^153 * x3 + 2^204 * (x4 : Int)

theorem fe64_0 : Spec.fe64 0 = [((2:Int)^0, [Atom.var 0]), ((2:Int)^51, [Atom.var 1]), ((2:Int)^102, [Atom.var 2]),
    ((2:Int)^153, [Atom.var 3]), ((2:Int)^204, [Atom.var 4])] := rfl
theorem fe64_5 : Spec.fe64 5 = [((2:Int)^0, [Atom.var 5]), ((2:Int)^51, [Atom.var 6]), ((2:Int)^102, [Atom.var 7]),
    ((2:Int)^153, [Atom.var 8]), ((2:Int)^204, [Atom.var 9])] := rfl

theorem val_linW (e : Env) : ∀ (vs ws : List Nat), (linW vs ws).val e = lincomb e (weights ws) vs
  | [], ws => by cases ws <;> rfl
  | _ :: _, [] => rfl
  | v :: vs, w :: ws => by
    simp only [linW, Poly.val, Mono.val, Atom.val, weights, List.map, lincomb, Int.mul_one]
    rw [val_linW e vs ws]; rfl

theorem lincomb_radix51 (e : Env) : ∀ {os : List Nat}, os.length = 5 → lincomb e (weights radix51) os =
    v51 (get e (os.getD 0 0)) (get e (os.getD 1 0)) (get e (os.getD 2 0)) (get e (os.getD 3 0)) (get e (os.getD 4 0))
  | [o0, o1, o2, o3, o4], _ => by
    simp only [lincomb, weights, radix51, List.map, v51, List.getD_cons_zero, List.getD_cons_succ]
    ring

theorem val_fe64 (e : Env) (k : Nat) :
    (Spec.fe64 k).val e = v51 (get e (k + 0)) (get e (k + 1)) (get e (k + 2)) (get e (k + 3)) (get e (k + 4)) := by
  rw [Spec.fe64, val_linW]; exact lincomb_radix51 e rfl

theorem feMul_meets_contract (a0 a1 a2 a3 a4 b0 b1 b2 b3 b4 : Nat)
    (ha : ∀ x ∈ [a0, a1, a2, a3, a4, b0, b1, b2, b3, b4], x ≤ 2^54 - 1) :
    let e := run Voi.Gen.FieldU64.feMulGeneric_prog [a0, a1, a2, a3, a4, b0, b1, b2, b3, b4]
    (∀ j, j < 5 → get e (Voi.Gen.FieldU64.feMulGeneric_outs.getD j 0) ≤ 2^52 - 1) ∧
    (v51 (get e (Voi.Gen.FieldU64.feMulGeneric_outs.getD 0 0)) (get e (Voi.Gen.FieldU64.feMulGeneric_outs.getD 1 0))
        (get e (Voi.Gen.FieldU64.feMulGeneric_outs.getD 2 0)) (get e (Voi.Gen.FieldU64.feMulGeneric_outs.getD 3 0))
        (get e (Voi.Gen.FieldU64.feMulGeneric_outs.getD 4 0)) - v51 a0 a1 a2 a3 a4 * v51 b0 b1 b2 b3 b4) % (2^255 - 19) = 0 := by
  intro e
  obtain ⟨hb, hv⟩ := check_congr FieldU64_feMulGeneric rfl (PreSat.replicate ha)
  refine ⟨fun j hj => Nat.le_trans (hb j hj) ?_, ?_⟩
  · revert j; decide
  · rw [lincomb_radix51 _ rfl, Poly.val_mul, val_fe64, val_fe64] at hv
    exact hv

theorem feSquare_meets_contract (a0 a1 a2 a3 a4 : Nat)
    (ha : ∀ x ∈ [a0, a1, a2, a3, a4], x ≤ 2^54 - 1) :
    let e := run Voi.Gen.FieldU64.fePow2kGeneric1_prog [a0, a1, a2, a3, a4]
    (∀ j, j < 5 → get e (Voi.Gen.FieldU64.fePow2kGeneric1_outs.getD j 0) ≤ 2^52 - 1) ∧
    (v51 (get e (Voi.Gen.FieldU64.fePow2kGeneric1_outs.getD 0 0)) (get e (Voi.Gen.FieldU64.fePow2kGeneric1_outs.getD 1 0))
        (get e (Voi.Gen.FieldU64.fePow2kGeneric1_outs.getD 2 0)) (get e (Voi.Gen.FieldU64.fePow2kGeneric1_outs.getD 3 0))
        (get e (Voi.Gen.FieldU64.fePow2kGeneric1_outs.getD 4 0)) - v51 a0 a1 a2 a3 a4 * v51 a0 a1 a2 a3 a4) % (2^255 - 19) = 0 := by
  intro e
  obtain ⟨hb, hv⟩ := check_congr FieldU64_fePow2kGeneric1 rfl (PreSat.replicate ha)
  refine ⟨fun j hj => Nat.le_trans (hb j hj) ?_, ?_⟩
  · revert j; decide
  · rw [lincomb_radix51 _ rfl, Poly.val_mul, val_fe64] at hv
    exact hv

theorem feMul121666_meets_contract (a0 a1 a2 a3 a4 : Nat)
    (ha : ∀ x ∈ [a0, a1, a2, a3, a4], x ≤ 2^54 - 1) :
    let e := run Voi.Gen.FieldU64.Mul121666_prog [a0, a1, a2, a3, a4]
    (∀ j, j < 5 → get e (Voi.Gen.FieldU64.Mul121666_outs.getD j 0) ≤ 2^52 - 1) ∧
    (v51 (get e (Voi.Gen.FieldU64.Mul121666_outs.getD 0 0)) (get e (Voi.Gen.FieldU64.Mul121666_outs.getD 1 0))
        (get e (Voi.Gen.FieldU64.Mul121666_outs.getD 2 0)) (get e (Voi.Gen.FieldU64.Mul121666_outs.getD 3 0))
        (get e (Voi.Gen.FieldU64.Mul121666_outs.getD 4 0)) - 121666 * v51 a0 a1 a2 a3 a4) % (2^255 - 19) = 0 := by
  intro e
  obtain ⟨hb, hv⟩ := check_congr FieldU64_Mul121666 rfl (PreSat.replicate ha)
  refine ⟨fun j hj => Nat.le_trans (hb j hj) ?_, ?_⟩
  · revert j; decide
  · rw [lincomb_radix51 _ rfl, Poly.val_scale, val_fe64] at hv
    exact hv

theorem feSquare2_meets_contract (a0 a1 a2 a3 a4 : Nat)
    (ha : ∀ x ∈ [a0, a1, a2, a3, a4], x ≤ 2^54 - 1) :
    let e := run Voi.Gen.FieldU64.Square2_prog [a0, a1, a2, a3, a4]
    (∀ j, j < 5 → get e (Voi.Gen.FieldU64.Square2_outs.getD j 0) ≤ 2^53 - 1) ∧
    (v51 (get e (Voi.Gen.FieldU64.Square2_outs.getD 0 0)) (get e (Voi.Gen.FieldU64.Square2_outs.getD 1 0))
        (get e (Voi.Gen.FieldU64.Square2_outs.getD 2 0)) (get e (Voi.Gen.FieldU64.Square2_outs.getD 3 0))
        (get e (Voi.Gen.FieldU64.Square2_outs.getD 4 0)) - 2 * (v51 a0 a1 a2 a3 a4 * v51 a0 a1 a2 a3 a4)) % (2^255 - 19) = 0 := by
  intro e
  obtain ⟨hb, hv⟩ := check_congr FieldU64_Square2 rfl (PreSat.replicate ha)
  refine ⟨fun j hj => Nat.le_trans (hb j hj) ?_, ?_⟩
  · revert j; decide
  · rw [lincomb_radix51 _ rfl, Poly.val_scale, Poly.val_mul, val_fe64] at hv
    exact hv

theorem feNeg_meets_contract (a0 a1 a2 a3 a4 : Nat)
    (h0 : a0 ≤ 36028797018963664) (h1 : a1 ≤ 36028797018963952) (h2 : a2 ≤ 36028797018963952)
    (h3 : a3 ≤ 36028797018963952) (h4 : a4 ≤ 36028797018963952) :
    let e := run Voi.Gen.FieldU64.Neg_prog [a0, a1, a2, a3, a4]
    (∀ j, j < 5 → get e (Voi.Gen.FieldU64.Neg_outs.getD j 0) ≤ 2^52 - 1) ∧
    (v51 (get e (Voi.Gen.FieldU64.Neg_outs.getD 0 0)) (get e (Voi.Gen.FieldU64.Neg_outs.getD 1 0))
        (get e (Voi.Gen.FieldU64.Neg_outs.getD 2 0)) (get e (Voi.Gen.FieldU64.Neg_outs.getD 3 0))
        (get e (Voi.Gen.FieldU64.Neg_outs.getD 4 0)) - (-1) * v51 a0 a1 a2 a3 a4) % (2^255 - 19) = 0 := by
  intro e
  obtain ⟨hb, hv⟩ := check_congr FieldU64_Neg rfl (.cons_le h0 <| .cons_le h1 <| .cons_le h2 <| .cons_le h3 <| .cons_le h4 .nil)
  refine ⟨fun j hj => Nat.le_trans (hb j hj) ?_, ?_⟩
  · revert j; decide
  · rw [lincomb_radix51 _ rfl, Poly.val_scale, val_fe64] at hv
    exact hv

theorem feSub_meets_contract (a0 a1 a2 a3 a4 b0 b1 b2 b3 b4 : Nat)
    (ha : ∀ x ∈ [a0, a1, a2, a3, a4], x ≤ 2^63 - 1)
    (h0 : b0 ≤ 36028797018963664) (h1 : b1 ≤ 36028797018963952) (h2 : b2 ≤ 36028797018963952)
    (h3 : b3 ≤ 36028797018963952) (h4 : b4 ≤ 36028797018963952) :
    let e := run Voi.Gen.FieldU64.Sub_prog [a0, a1, a2, a3, a4, b0, b1, b2, b3, b4]
    (∀ j, j < 5 → get e (Voi.Gen.FieldU64.Sub_outs.getD j 0) ≤ 2^52 - 1) ∧
    (v51 (get e (Voi.Gen.FieldU64.Sub_outs.getD 0 0)) (get e (Voi.Gen.FieldU64.Sub_outs.getD 1 0))
        (get e (Voi.Gen.FieldU64.Sub_outs.getD 2 0)) (get e (Voi.Gen.FieldU64.Sub_outs.getD 3 0))
        (get e (Voi.Gen.FieldU64.Sub_outs.getD 4 0)) - (v51 a0 a1 a2 a3 a4 + (-1) * v51 b0 b1 b2 b3 b4)) % (2^255 - 19) = 0 := by
  intro e
  obtain ⟨hb, hv⟩ := check_congr FieldU64_Sub rfl
    ((PreSat.replicate ha).append <| .cons_le h0 <| .cons_le h1 <| .cons_le h2 <| .cons_le h3 <| .cons_le h4 .nil)
  refine ⟨fun j hj => Nat.le_trans (hb j hj) ?_, ?_⟩
  · revert j; decide
  · rw [lincomb_radix51 _ rfl, Poly.val_add, Poly.val_scale, val_fe64, val_fe64] at hv
    exact hv

theorem feAdd_limbwise (a0 a1 a2 a3 a4 b0 b1 b2 b3 b4 : Nat) :
    Voi.Gen.FieldU64.Add_outs.map (IR.get (run Voi.Gen.FieldU64.Add_prog [a0, a1, a2, a3, a4, b0, b1, b2, b3, b4])) =
      [(a0 + b0) % 2^64, (a1 + b1) % 2^64, (a2 + b2) % 2^64, (a3 + b3) % 2^64, (a4 + b4) % 2^64] := by
  simp only [Voi.Gen.FieldU64.Add_outs, Voi.Gen.FieldU64.Add_prog, run, Op.eval, IR.get, List.map, List.cons_append,
    List.nil_append, List.getD_cons_zero, List.getD_cons_succ]

/-- the bounds used above are the entries of the contract table -/
theorem contract_bounds : C64.mulPre = List.replicate 5 (2^54 - 1) ∧ C64.mulPost = List.replicate 5 (2^52 - 1) ∧
    C64.sqPre = List.replicate 5 (2^54 - 1) ∧ C64.sqPost = List.replicate 5 (2^52 - 1) ∧ C64.sq2Post = List.replicate 5 (2^53 - 1) ∧
    C64.subPreA = List.replicate 5 (2^63 - 1) ∧ C64.negPost = List.replicate 5 (2^52 - 1) ∧
    C64.subPreB = [36028797018963664, 36028797018963952, 36028797018963952, 36028797018963952, 36028797018963952] ∧
    C64.negPre = C64.subPreB := by
  decide +kernel

end Voi.Props.FL.Link

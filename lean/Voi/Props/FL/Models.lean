/-
Value theorems about the regenerated field-level programs of curve/models.go (serial backend): the Niels, completed and
projective formulas, each stated as what it contributes to the extended-coordinate group law of `Proofs/EdwardsExt`.
-/
import Voi.Props.FL.Curve
import Voi.Gen.FL_CurveF64_AddEdwardsProjectiveNiels
import Voi.Gen.FL_CurveF64_SubEdwardsProjectiveNiels
import Voi.Gen.FL_CurveF64_AddEdwardsAffineNiels
import Voi.Gen.FL_CurveF64_SubEdwardsAffineNiels
import Voi.Gen.FL_CurveF64_AddCompletedAffineNiels
import Voi.Gen.FL_CurveF64_SubCompletedAffineNiels
import Voi.Gen.FL_CurveF64_CompletedDouble
import Voi.Gen.FL_CurveF64_setCompleted
import Voi.Gen.FL_CurveF64_ProjSetCompleted
import Voi.Gen.FL_CurveF64_setProjective
import Voi.Gen.FL_CurveF64_setAffineNiels
import Voi.Gen.FL_CurveF64_PNielsSetEdwards
import Voi.Gen.FL_CurveF64_ANielsSetEdwards
import Voi.Gen.FL_CurveF64_PNielsConditionalNegate
import Voi.Gen.FL_CurveF64_ANielsConditionalNegate
import Voi.Gen.FL_CurveF64_EdwardsConditionalSelect
namespace Voi.Props.FL
open Voi.Spec Voi.Proofs Voi.Props.C07 Voi.Gen.CurveF64

local notation "toZ" => Voi.Props.C07.toZ

theorem setCompleted_eq (c0 c1 c2 c3 : Nat) : extOfList (setCompleted_sh c0 c1 c2 c3) = cmpToExt [c0, c1, c2, c3] := by
  simp only [setCompleted_sh]; fl_simp

theorem ProjSetCompleted_eq (c0 c1 c2 c3 : Nat) :
    let o := ProjSetCompleted_sh c0 c1 c2 c3; let e := cmpToExt [c0, c1, c2, c3]
    zl o 0 = e.X ∧ zl o 1 = e.Y ∧ zl o 2 = e.Z := by
  simp only [ProjSetCompleted_sh]; fl_simp; exact ⟨trivial, trivial, trivial⟩

theorem setProjective_eq (X Y Z : Nat) :
    extOfList (setProjective_sh X Y Z) = ⟨toZ X * toZ Z, toZ Y * toZ Z, toZ Z * toZ Z, toZ X * toZ Y⟩ := by
  simp only [setProjective_sh]; fl_simp

theorem AddEdwardsProjectiveNiels_eq (P Q : Ext) :
    (let n := PNielsSetEdwards_sh Q.X Q.Y Q.Z Q.T
     cmpToExt (AddEdwardsProjectiveNiels_sh P.X P.Y P.Z P.T (n.getD 0 0) (n.getD 1 0) (n.getD 2 0) (n.getD 3 0))) =
      ExtK.add (d25519 + d25519) (extToK P) (extToK Q) := by
  simp only [PNielsSetEdwards_sh, AddEdwardsProjectiveNiels_sh]; fl_simp
  apply ExtK.ext' <;> ring

theorem SubEdwardsProjectiveNiels_eq (P Q : Ext) :
    (let n := PNielsSetEdwards_sh Q.X Q.Y Q.Z Q.T
     cmpToExt (SubEdwardsProjectiveNiels_sh P.X P.Y P.Z P.T (n.getD 0 0) (n.getD 1 0) (n.getD 2 0) (n.getD 3 0))) =
      ExtK.add (d25519 + d25519) (extToK P) (ExtK.neg (extToK Q)) := by
  simp only [PNielsSetEdwards_sh, SubEdwardsProjectiveNiels_sh]; fl_simp
  apply ExtK.ext' <;> ring

/-- swap Y±X, negate 2dT: the Niels form of −Q -/
theorem PNielsConditionalNegate_eq (n0 n1 n2 n3 c : Nat) :
    PNielsConditionalNegate_sh n0 n1 n2 n3 c = if c = 0 then [n0, n1, n2, n3] else [n1, n0, n2, Fp.neg n3] := by
  simp only [PNielsConditionalNegate_sh, FIR.sel]; split <;> rfl

theorem ANielsConditionalNegate_eq (n0 n1 n2 c : Nat) :
    ANielsConditionalNegate_sh n0 n1 n2 c = if c = 0 then [n0, n1, n2] else [n1, n0, Fp.neg n2] := by
  simp only [ANielsConditionalNegate_sh, FIR.sel]; split <;> rfl

theorem EdwardsConditionalSelect_eq (a0 a1 a2 a3 b0 b1 b2 b3 c : Nat) :
    EdwardsConditionalSelect_sh a0 a1 a2 a3 b0 b1 b2 b3 c = if c = 0 then [a0, a1, a2, a3] else [b0, b1, b2, b3] := by
  simp only [EdwardsConditionalSelect_sh, FIR.sel]; split <;> rfl

theorem add_comm' (a b : Nat) : Fp.add a b = Fp.add b a := fp_add_comm a b

/-- the affine Niels form (y+x, y−x, 2dxy) of an affine point -/
def aniels (x y : Nat) : List Nat := [Fp.add y x, Fp.sub y x, Fp.mul (Fp.mul x y) Fp.d2]

theorem AddEdwardsAffineNiels_eq (P : Ext) (x y : Nat) :
    cmpToExt (AddEdwardsAffineNiels_sh P.X P.Y P.Z P.T ((aniels x y).getD 0 0) ((aniels x y).getD 1 0) ((aniels x y).getD 2 0)) =
      ExtK.add (d25519 + d25519) (extToK P) (ExtK.ofAffine (toZ x) (toZ y)) := by
  simp only [aniels, AddEdwardsAffineNiels_sh]; fl_simp
  apply ExtK.ext' <;> ring

theorem SubEdwardsAffineNiels_eq (P : Ext) (x y : Nat) :
    cmpToExt (SubEdwardsAffineNiels_sh P.X P.Y P.Z P.T ((aniels x y).getD 0 0) ((aniels x y).getD 1 0) ((aniels x y).getD 2 0)) =
      ExtK.add (d25519 + d25519) (extToK P) (ExtK.neg (ExtK.ofAffine (toZ x) (toZ y))) := by
  simp only [aniels, SubEdwardsAffineNiels_sh]; fl_simp
  apply ExtK.ext' <;> ring

theorem AddCompletedAffineNiels_eq (c0 c1 c2 c3 n0 n1 n2 : Nat) :
    AddCompletedAffineNiels_sh c0 c1 c2 c3 n0 n1 n2 =
      (let e := setCompleted_sh c0 c1 c2 c3
       AddEdwardsAffineNiels_sh (e.getD 0 0) (e.getD 1 0) (e.getD 2 0) (e.getD 3 0) n0 n1 n2) := rfl

theorem SubCompletedAffineNiels_eq (c0 c1 c2 c3 n0 n1 n2 : Nat) :
    SubCompletedAffineNiels_sh c0 c1 c2 c3 n0 n1 n2 =
      (let e := setCompleted_sh c0 c1 c2 c3
       SubEdwardsAffineNiels_sh (e.getD 0 0) (e.getD 1 0) (e.getD 2 0) (e.getD 3 0) n0 n1 n2) := rfl

theorem ANielsSetEdwards_eq (Q : Ext) :
    ANielsSetEdwards_sh Q.X Q.Y Q.Z Q.T = aniels (Fp.mul Q.X (Fp.inv Q.Z)) (Fp.mul Q.Y (Fp.inv Q.Z)) := by
  -- componentwise, as for the ladder step (`Montgomery.MontgomeryStep_eq`): y + x may be written x + y in the code
  refine list3_ext ?_ ?_ ?_ <;>
    exact toZ_inj (by simp only [fp]) (by simp only [fp]) (by simp only [fp, const_d2] <;> ring)

/-- `setAffineNiels` is identity + affine point -/
theorem setAffineNiels_eq (x y : Nat) :
    extOfList (setAffineNiels_sh ((aniels x y).getD 0 0) ((aniels x y).getD 1 0) ((aniels x y).getD 2 0)) =
      ExtK.add (d25519 + d25519) ExtK.zero (ExtK.ofAffine (toZ x) (toZ y)) := by
  simp only [aniels, setAffineNiels_sh]; fl_simp
  apply ExtK.ext' <;> ring

/-- `(completedPoint).Double`, completed, is dbl-2008-hwcd up to the projective factor −1 -/
theorem CompletedDouble_eq (P : Ext) :
    cmpToExt (CompletedDouble_sh P.X P.Y P.Z) =
      (let D := ExtK.dbl (extToK P); ⟨(-1) * D.X, (-1) * D.Y, (-1) * D.Z, (-1) * D.T⟩) := by
  simp only [CompletedDouble_sh]; fl_simp
  apply ExtK.ext' <;> ring

end Voi.Props.FL

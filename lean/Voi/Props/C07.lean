/-
C07 — X25519 is the RFC 7748 function on every input.  `Voi.Model.Montgomery` is the code-shaped model of
curve/montgomery.go `(*MontgomeryPoint).Mul` and of primitives/x25519/x25519.go; `Voi.Spec.X25519` is the pseudo-code of
RFC 7748 §5; both are executable and compared with the Go code by the differential stream X1.  Here the two are proved
to be the same function.  No curve theory is used: these are identities between two programs over ℤ/p (p need not be
prime), so non-canonical u (≥ p), u with bit 255 set, twist points and low-order points need no special treatment.

Not proved (they need the ladder as a group action on the Montgomery curve and the Edwards ↔ Montgomery isomorphism):
"the fixed-base routine equals multiplication of 9" and "Diffie–Hellman is symmetric".  They are stated as
`base_eq_ladder_statement`, `dh_symmetric_statement`, `ed_pair_statement : Prop` and covered by stream X1 only.
-/
import Voi.Props.C07.FpRing
import Voi.Props.C07.Ladder
import Voi.Props.C07.Clamp
import Voi.Props.BytesLemmas
import Voi.Spec.Ed25519
namespace Voi.Props.C07
open Voi Voi.Spec

/-- C07, one step: the RFC's two `cswap`s followed by Go's `montgomeryDifferentialAddAndDouble` give the
(x_2, z_2, x_3, z_3) of the RFC's `ladderStep`, as equal representatives in [0, p), not merely projectively. -/
theorem step_eq (x1 k t : Nat) (s : Spec.X25519.State) :
    let sw := s.swap ^^^ ((k >>> t) &&& 1)
    let X := Spec.X25519.cswap sw s.x2 s.x3
    let Z := Spec.X25519.cswap sw s.z2 s.z3
    Model.Montgomery.diffAddAndDouble ⟨X.1, Z.1⟩ ⟨X.2, Z.2⟩ x1 =
      toPair (Spec.X25519.ladderStep x1 k t s) := by
  intro sw X Z
  rw [step_eq_core, ladderStep_unfold]
  rfl

theorem step_eq_zmod (x1 x2 z2 x3 z3 : Nat) :
    let r := Model.Montgomery.diffAddAndDouble ⟨x2, z2⟩ ⟨x3, z3⟩ x1
    let a := toZ x2; let b := toZ z2; let c := toZ x3; let d := toZ z3
    let AA := (a + b) ^ 2; let BB := (a - b) ^ 2; let E := AA - BB
    let DA := (c - d) * (a + b); let CB := (c + d) * (a - b)
    toZ r.1.U = AA * BB ∧ toZ r.1.W = E * (AA + 121665 * E) ∧
    toZ r.2.U = (DA + CB) ^ 2 ∧ toZ r.2.W = toZ x1 * (DA - CB) ^ 2 := by
  intro r a b c d AA BB E DA CB
  have hr : r = _ := step_eq_core x1 x2 z2 x3 z3
  rw [hr]
  unfold rfcStep Spec.X25519.a24
  simp only [fp]
  refine ⟨?_, ?_, ?_, ?_⟩ <;> ring

/-- C07, swap schedule: Go's `conditionalSwap` on `bits[i+1] ⊕ bits[i]` followed by the step is the RFC's
`swap ^= k_i; cswap; cswap; step; swap = k_i`, so the two loops, started from states that agree (with `swap = bits[n]`),
end in states that agree (invariant `Rel`). -/
theorem swap_schedule_eq (x1 k n : Nat) (s : Spec.X25519.State) (hb : Bounded s)
    (hs : s.swap = Model.Montgomery.bit k n) :
    Model.Montgomery.mulLoop x1 k n (toPair s) = toPair (Spec.X25519.ladder x1 k n s) ∧
    (Spec.X25519.ladder x1 k n s).swap = Model.Montgomery.bit k 0 ∧
    Bounded (Spec.X25519.ladder x1 k n s) := by
  have h := rel_loop x1 k n (s := s) (st := toPair s) ⟨rfl, hs, hb⟩
  exact ⟨h.eq, h.swap, h.bounded⟩

/-- The 255 iterations of `Mul` and the final swap: Go's last `conditionalSwap(bits[0])` is the RFC's last pair of
`cswap`s. -/
theorem swap_schedule_eq_255 (x1 k : Nat) (hk : k < 2 ^ 255) (hx : x1 < 2 ^ 256) :
    let s := Spec.X25519.ladder x1 k 255 ⟨1, 0, x1, 1, 0⟩
    let st := Model.Montgomery.mulLoop x1 k 255 (Model.Montgomery.ProjPt.identity, ⟨x1, 1⟩)
    st = toPair s ∧
    Model.Montgomery.conditionalSwap st.1 st.2 (Model.Montgomery.bit k 0) =
      (⟨(Spec.X25519.cswap s.swap s.x2 s.x3).1, (Spec.X25519.cswap s.swap s.z2 s.z3).1⟩,
       ⟨(Spec.X25519.cswap s.swap s.x2 s.x3).2, (Spec.X25519.cswap s.swap s.z2 s.z3).2⟩) := by
  intro s st
  have h : Rel k 0 s st := rel_loop x1 k 255 (rel_init hk hx)
  obtain ⟨heq, hsw, hx2, hz2, hx3, hz3⟩ := h
  refine ⟨heq, ?_⟩
  rw [heq, hsw, cswap_eq_ite (bit_lt _ _) hx2 hx3, cswap_eq_ite (bit_lt _ _) hz2 hz3]
  unfold Model.Montgomery.conditionalSwap toPair
  split <;> rfl

theorem mul_unfold (point : Bytes) (s : Nat) :
    Model.Montgomery.mul point s =
      (let affineU := Model.Montgomery.feFromBytes point
       let st := Model.Montgomery.mulLoop affineU s 255
         (Model.Montgomery.ProjPt.identity, ⟨affineU, 1⟩)
       Model.Montgomery.fromProjective
         (Model.Montgomery.conditionalSwap st.1 st.2 (Model.Montgomery.bit s 0)).1) := rfl

theorem x25519Nat_unfold (k x1 : Nat) :
    Spec.X25519.x25519Nat k x1 =
      (let s := Spec.X25519.ladder x1 k 255 ⟨1, 0, x1, 1, 0⟩
       Fp.mul (Spec.X25519.cswap s.swap s.x2 s.x3).1
         (Fp.pow (Spec.X25519.cswap s.swap s.z2 s.z3).1 (p - 2))) := rfl

theorem decodeUCoordinate_lt (u : Bytes) : Spec.X25519.decodeUCoordinate u < p := mod_lt _

/-- C07: `(*MontgomeryPoint).Mul` is the RFC ladder for every scalar value `s < 2^255` (what `scalar.SetBits` produces)
and every point string (non-canonical, bit 255 set, twist, low order, any length). -/
theorem mul_eq_rfc (point : Bytes) (s : Nat) (hs : s < 2 ^ 255) :
    Model.Montgomery.mul point s =
      Spec.X25519.encodeUCoordinate
        (Spec.X25519.x25519Nat s (Spec.X25519.decodeUCoordinate point)) := by
  have h := (swap_schedule_eq_255 (Spec.X25519.decodeUCoordinate point) s hs
    (lt_of_lt_p (decodeUCoordinate_lt point))).2
  rw [mul_unfold, x25519Nat_unfold]
  simp only [show Model.Montgomery.feFromBytes point = Spec.X25519.decodeUCoordinate point from rfl] at h ⊢
  rw [h]
  rfl

theorem mul_eq_rfc_nat (point : Bytes) (u s : Nat) (hs : s < 2 ^ 255)
    (hu : Spec.X25519.decodeUCoordinate point = u) :
    Model.Montgomery.mul point s =
      Spec.X25519.encodeUCoordinate (Spec.X25519.x25519Nat s u) := by
  rw [mul_eq_rfc point s hs, hu]

theorem setBits_clampScalar (k : Bytes) :
    Model.Montgomery.setBits (Model.Montgomery.clampScalar k) = Spec.X25519.decodeScalar25519 k := by
  unfold Model.Montgomery.setBits
  rw [clampScalar_eq_clampNat, decodeScalar25519_eq_clampNat, Nat.mod_eq_of_lt (clampNat_lt _)]

/-- C07: `x25519.ScalarMult` is RFC 7748 X25519 on all byte strings `k`, `u` of any length, hence also on non-canonical
u (≥ p), u with bit 255 set, points on the twist and low-order points. -/
theorem scalarMult_eq_rfc (k u : Bytes) :
    Model.Montgomery.scalarMult k u = Spec.X25519.x25519 k u := by
  unfold Model.Montgomery.scalarMult Spec.X25519.x25519
  have hlt : Model.Montgomery.setBits (Model.Montgomery.clampScalar k) < 2 ^ 255 := by
    rw [setBits_clampScalar, decodeScalar25519_eq_clampNat]; exact clampNat_lt _
  rw [mul_eq_rfc u _ hlt, setBits_clampScalar]

/-- C07 as worded, for 32-byte `k` and `u`; the lengths are not used. -/
theorem scalarMult_eq_rfc_32 (k u : Bytes) (_hk : k.size = 32) (_hu : u.size = 32) :
    Model.Montgomery.scalarMult k u = Spec.X25519.x25519 k u := scalarMult_eq_rfc k u

theorem x25519Nat_zmod (k x1 : Nat) :
    let s := Spec.X25519.ladder x1 k 255 ⟨1, 0, x1, 1, 0⟩
    toZ (Spec.X25519.x25519Nat k x1) =
      toZ (Spec.X25519.cswap s.swap s.x2 s.x3).1 *
        toZ (Spec.X25519.cswap s.swap s.z2 s.z3).1 ^ (p - 2) :=
  (toZ_mul _ _).trans (congrArg _ (toZ_pow _ _ (by decide)))

theorem checked_eq (k u : Bytes) :
    Model.Montgomery.x25519 k u false = Spec.X25519.x25519Checked k u := by
  simp only [Model.Montgomery.x25519, Spec.X25519.x25519Checked, scalarMult_eq_rfc, ite_or, Bool.false_eq_true, if_false]

/-- C07, error condition of `X25519(scalar, point)` (point not the `Basepoint` slice): an error exactly when a length
is not 32 or RFC 7748's X25519(k, u) is the all-zero string. -/
theorem checked_error_iff (k u : Bytes) :
    Model.Montgomery.x25519 k u false = none ↔
      k.size ≠ 32 ∨ u.size ≠ 32 ∨ Spec.X25519.x25519 k u = bzero 32 := by
  -- `if c then none else if d then none else some r` is `none` iff `c ∨ d`
  rw [checked_eq, Spec.X25519.x25519Checked, ← or_assoc]
  simp only [ite_eq_left_iff, Bytes.beq_iff, reduceCtorEq, imp_false, not_not, or_iff_not_imp_left]

theorem checked_ok (k u : Bytes) (hk : k.size = 32) (hu : u.size = 32)
    (hz : Spec.X25519.x25519 k u ≠ bzero 32) :
    Model.Montgomery.x25519 k u false = some (Spec.X25519.x25519 k u) := by
  rw [checked_eq, Spec.X25519.x25519Checked, if_neg (by simp [hk, hu]), if_neg (by rwa [Bytes.beq_iff])]

/-- On the `&point[0] == &Basepoint[0]` path there is no zero check: the only errors are lengths. -/
theorem checked_basepoint_error_iff (k u : Bytes) :
    Model.Montgomery.x25519 k u true = none ↔ k.size ≠ 32 ∨ u.size ≠ 32 := by
  simp only [Model.Montgomery.x25519, if_true, ite_eq_left_iff, reduceCtorEq, imp_false, not_not, or_iff_not_imp_left]

theorem clampScalar_eq_decodeScalar (k : Bytes) :
    Model.Montgomery.clampScalar k = Spec.X25519.decodeScalar25519 k := by
  rw [clampScalar_eq_clampNat, decodeScalar25519_eq_clampNat]

/-- so `scalar.SetBits`' masking is a no-op on the clamped scalar -/
theorem clampScalar_lt (k : Bytes) : Model.Montgomery.clampScalar k < 2 ^ 255 := by
  rw [clampScalar_eq_clampNat]; exact clampNat_lt _

/-- C07: clamping changes exactly bits 0, 1, 2, 255 (→ 0) and 254 (→ 1). -/
theorem clampScalar_testBit (k : Bytes) (i : Nat) :
    (Model.Montgomery.clampScalar k).testBit i =
      if i < 3 ∨ 255 ≤ i then false else if i = 254 then true else (leNat k).testBit i := by
  rw [clampScalar_eq_clampNat]; exact clampNat_testBit _ _

/-- A 32-byte string has nothing above bit 255, so "exactly" is literal. -/
theorem clampScalar_testBit_32 (k : Bytes) (hk : k.size = 32) (i : Nat) :
    (Model.Montgomery.clampScalar k).testBit i =
      if i = 0 ∨ i = 1 ∨ i = 2 ∨ i = 255 then false else if i = 254 then true
      else (leNat k).testBit i := by
  rw [clampScalar_testBit]
  by_cases hi : 256 ≤ i
  · have hlt : leNat k < 2 ^ i :=
      Nat.lt_of_lt_of_le (Props.Bytes.leNat_lt_of_size hk)
        ((by decide : 256 ^ 32 = 2 ^ 256) ▸ Nat.pow_le_pow_right (Nat.le_succ 1) hi)
    rw [if_pos (.inr (by omega)), if_neg (by omega), if_neg (by omega), Nat.testBit_lt_two_pow hlt]
  · have e : (i < 3 ∨ 255 ≤ i) ↔ (i = 0 ∨ i = 1 ∨ i = 2 ∨ i = 255) := by omega
    simp only [e]

/-- Code-shaped model of `EdPrivateKeyToX25519`: SHA-512 of `privateKey[:32]`, `clampScalar` on
the digest (it touches bytes 0 and 31 only), first 32 bytes. -/
def edPrivateKeyToX25519 (sk : Bytes) : Bytes :=
  natLE (Model.Montgomery.clampScalar (bslice (sha512 (bslice sk 0 32)) 0 32)) 32

theorem edPrivToX25519_eq (sk : Bytes) :
    Spec.X25519.edPrivToX25519 sk = edPrivateKeyToX25519 sk := by
  unfold Spec.X25519.edPrivToX25519 edPrivateKeyToX25519
  rw [clampScalar_eq_decodeScalar]

/-- `EdPublicKeyToX25519` (Go: `SetBytes`, `SetCompressedY`, `SetEdwards`) is the RFC 7748 §4.1 map
u = (1 + y)/(1 − y) on the decoded key. -/
theorem edPublicKeyToX25519_eq (pk : Bytes) :
    Model.Montgomery.edPublicKeyToX25519 pk = Spec.X25519.edPubToX25519 pk := by
  unfold Model.Montgomery.edPublicKeyToX25519 Spec.X25519.edPubToX25519
  by_cases h : pk.size ≠ 32
  · have : Pt.decode pk = none := by unfold Pt.decode; simp [h]
    simp [h, this]
  · simp only [h, if_false]
    cases Pt.decode pk with
    | none => rfl
    | some A => rfl

/-- "The fixed-base routine equals multiplication of the base point 9": the Edwards fixed-base multiplication followed
by the birational map gives the ladder's result on u = 9.  Not proved: needs (a) the ladder computes x([k]P) on the
Montgomery curve, incl. the exceptional cases, and (b) the Edwards ↔ Montgomery isomorphism is a group homomorphism.
Covered by the differential stream X1 only. -/
def base_eq_ladder_statement : Prop :=
  ∀ k : Bytes, k.size = 32 →
    Model.Montgomery.scalarBaseMult k = Spec.X25519.scalarBaseMult k

/-- "Diffie–Hellman is symmetric".  Not proved: needs the ladder as a group action ([a][b]P = [b][a]P on
x-coordinates).  Stream X1 only. -/
def dh_symmetric_statement : Prop :=
  ∀ a b : Bytes, a.size = 32 → b.size = 32 →
    Spec.X25519.x25519 a (Spec.X25519.scalarBaseMult b) =
      Spec.X25519.x25519 b (Spec.X25519.scalarBaseMult a)

/-- "Converting an Ed25519 key pair yields an X25519 pair whose public key is the X25519 public key of the converted
private key."  Not proved (same missing theory).  Stream X1 only. -/
def ed_pair_statement : Prop :=
  ∀ seed : Bytes, seed.size = 32 →
    Spec.X25519.edPubToX25519 (Ed25519.publicKey seed) =
      some (Spec.X25519.scalarBaseMult (Spec.X25519.edPrivToX25519 (Ed25519.newKeyFromSeed seed)))

/-- Given the two statements, Diffie–Hellman symmetry holds of the Go model (general-point `ScalarMult`, fixed-base
`ScalarBaseMult`), because `ScalarMult` is the RFC function (`scalarMult_eq_rfc`). -/
theorem dh_symmetric_transfer (hbase : base_eq_ladder_statement) (hdh : dh_symmetric_statement)
    (a b : Bytes) (ha : a.size = 32) (hb : b.size = 32) :
    Model.Montgomery.scalarMult a (Model.Montgomery.scalarBaseMult b) =
      Model.Montgomery.scalarMult b (Model.Montgomery.scalarBaseMult a) := by
  rw [scalarMult_eq_rfc, scalarMult_eq_rfc, hbase a ha, hbase b hb]
  exact hdh a b ha hb

/-- RFC 7748 §5.2 vector 1: input scalar, input u-coordinate, output u-coordinate -/
def kRFC : Bytes := ofHex! "a546e36bf0527c9d3b16154b82465edd62144c0ac1fc5a18506a2244ba449ac4"
def uRFC : Bytes := ofHex! "e6db6867583030db3594c1a424b15f7c726624ec26b3353b10a903a6d0ab1c4c"
def rRFC : Bytes := ofHex! "c3da55379de9c6908e94ea4df28d084f32eccf03491c71f754b4075577a28552"
/-- the same three as numbers (scalar after decodeScalar25519; u; result) -/
def kRFCn : Nat := 31029842492115040904895560451863089656472772604678260265531221036453811406496
def uRFCn : Nat := 34426434033919594451155107781188821651316167215306631574996226621102155684838
def rRFCn : Nat := 37325765543539916631701301279660700968428932651319597985674090122993663859395

#guard leNat kRFC == 88925887110773138616681052956207043583107764937498542285260013040410376226469
#guard Spec.X25519.decodeScalar25519 kRFC == kRFCn && Spec.X25519.decodeUCoordinate uRFC == uRFCn
#guard leNat rRFC == rRFCn

-- t = 254, k_254 = 1, so the pairs are swapped
example :
    Model.Montgomery.diffAddAndDouble ⟨uRFCn, 1⟩ ⟨1, 0⟩ uRFCn =
      toPair (Spec.X25519.ladderStep uRFCn kRFCn 254 ⟨1, 0, uRFCn, 1, 0⟩) := by
  have h := step_eq uRFCn kRFCn 254 ⟨1, 0, uRFCn, 1, 0⟩
  have e1 : Spec.X25519.cswap ((0 : Nat) ^^^ ((kRFCn >>> 254) &&& 1)) 1 uRFCn = (uRFCn, 1) := by
    decide +kernel
  have e2 : Spec.X25519.cswap ((0 : Nat) ^^^ ((kRFCn >>> 254) &&& 1)) 0 1 = (1, 0) := by
    decide +kernel
  simp only [e1, e2] at h
  exact h
example :
    Model.Montgomery.diffAddAndDouble ⟨uRFCn, 1⟩ ⟨1, 0⟩ uRFCn =
      (⟨10812997290877953414876713771559096076988124789286094484808612862248751257640,
        17057780096276725197266926689719741321978387205345998857384484874814072643392⟩,
       ⟨16951056914812400018644169018809599303786632668765219485878779373433958112465,
        21913646898362182381049446116067378751994684195585962260527322476495493099454⟩) := by
  decide +kernel

example :
    Model.Montgomery.mulLoop uRFCn kRFCn 255 (Model.Montgomery.ProjPt.identity, ⟨uRFCn, 1⟩) =
      toPair (Spec.X25519.ladder uRFCn kRFCn 255 ⟨1, 0, uRFCn, 1, 0⟩) :=
  (swap_schedule_eq_255 uRFCn kRFCn (by decide) (by decide)).1
-- started in the middle of the loop: iterations 102 … 0, swap = bits[103] = 1
example : Model.Montgomery.mulLoop 9 kRFCn 103 (⟨2, 3⟩, ⟨4, 5⟩) =
    toPair (Spec.X25519.ladder 9 kRFCn 103 ⟨2, 3, 4, 5, 1⟩) :=
  (swap_schedule_eq 9 kRFCn 103 ⟨2, 3, 4, 5, 1⟩ ⟨by decide, by decide, by decide, by decide⟩
    (by decide +kernel)).1

example : Model.Montgomery.mul uRFC kRFCn =
    Spec.X25519.encodeUCoordinate (Spec.X25519.x25519Nat kRFCn (Spec.X25519.decodeUCoordinate uRFC)) :=
  mul_eq_rfc uRFC kRFCn (by decide)
example : Model.Montgomery.scalarMult kRFC uRFC = Spec.X25519.x25519 kRFC uRFC :=
  scalarMult_eq_rfc kRFC uRFC
example : Spec.X25519.x25519Nat kRFCn uRFCn = rRFCn := by decide +kernel
#guard Model.Montgomery.scalarMult kRFC uRFC == rRFC && Spec.X25519.x25519 kRFC uRFC == rRFC
-- a non-canonical u with bit 255 set: 2^255 + p + 9 ≡ 9
example : Model.Montgomery.scalarMult kRFC (natLE (2 ^ 255 + p + 9) 32) =
    Spec.X25519.x25519 kRFC (natLE (2 ^ 255 + p + 9) 32) := scalarMult_eq_rfc _ _
#guard Model.Montgomery.scalarMult kRFC (natLE (2 ^ 255 + p + 9) 32) == Spec.X25519.x25519 kRFC (natLE 9 32)

-- u = 1 has order 4 (error); `natLE 9 31` is short (error)
example : Model.Montgomery.x25519 kRFC (natLE 1 32) false = none ↔
    kRFC.size ≠ 32 ∨ (natLE 1 32).size ≠ 32 ∨ Spec.X25519.x25519 kRFC (natLE 1 32) = bzero 32 :=
  checked_error_iff kRFC (natLE 1 32)
example : Model.Montgomery.x25519 kRFC uRFC false = Spec.X25519.x25519Checked kRFC uRFC :=
  checked_eq kRFC uRFC
#guard Model.Montgomery.x25519 kRFC (natLE 1 32) false == none
#guard Model.Montgomery.x25519 kRFC uRFC false == some rRFC
#guard Model.Montgomery.x25519 kRFC (natLE 9 31) false == none

-- in `kRFC` bits 0, 1, 2, 255 are 1, 0, 1, 1 and bit 254 is 1
example : Model.Montgomery.clampScalar kRFC = Spec.X25519.decodeScalar25519 kRFC :=
  clampScalar_eq_decodeScalar kRFC
example : (Model.Montgomery.clampScalar kRFC).testBit 255 = false := by
  rw [clampScalar_testBit]; rfl
example : (Model.Montgomery.clampScalar kRFC).testBit 254 = true := by
  rw [clampScalar_testBit]; rfl
example : (Model.Montgomery.clampScalar kRFC).testBit 100 = (leNat kRFC).testBit 100 := by
  rw [clampScalar_testBit]; rfl
#guard Model.Montgomery.clampScalar kRFC == kRFCn
example (sk : Bytes) : Spec.X25519.edPrivToX25519 sk =
    natLE (Model.Montgomery.clampScalar (bslice (sha512 (bslice sk 0 32)) 0 32)) 32 :=
  edPrivToX25519_eq sk

#print axioms step_eq
#print axioms step_eq_zmod
#print axioms swap_schedule_eq
#print axioms swap_schedule_eq_255
#print axioms mul_eq_rfc
#print axioms scalarMult_eq_rfc
#print axioms x25519Nat_zmod
#print axioms checked_eq
#print axioms checked_error_iff
#print axioms checked_ok
#print axioms checked_basepoint_error_iff
#print axioms setBits_clampScalar
#print axioms clampScalar_eq_decodeScalar
#print axioms clampScalar_lt
#print axioms clampScalar_testBit
#print axioms clampScalar_testBit_32
#print axioms edPrivToX25519_eq
#print axioms edPublicKeyToX25519_eq
#print axioms dh_symmetric_transfer
#print axioms toZ_inv

end Voi.Props.C07

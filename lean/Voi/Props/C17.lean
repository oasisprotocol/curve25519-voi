/-
C17 — Scalar digit recodings preserve the value within their digit bounds.

Theorems about the code-shaped models of `Voi.Model.Recoding` (tied to curve/scalar/scalar.go by the differential stream
R1, which compares digits exactly).  The scalar is universally quantified and handled by loop invariants
(`Voi/Props/C17/*.lean`); only facts about the three widths of ToRadix2w (digit counts, word indices) are evaluated.
Values are given both as `sumD r (dig a) k` and as the spec's `recon r a.toList` (`recon_toList` relates the two).

False, though one might hope for them (counterexamples below): NAF reconstruction for 2^255 ≤ n < 2^256; the radix-16
range [-8,8] for n ≥ 2^255; "no `int8` conversion changes a value" for the *intermediate* conversions of
NonAdjacentForm with w = 7, 8 (`int8(width)` wraps; the stored digit is still exact, see `naf_shape`).
-/
import Voi.Props.C17.Basic
import Voi.Props.C17.Bits
import Voi.Props.C17.Naf
import Voi.Props.C17.Radix16
import Voi.Props.C17.Radix2w
import Voi.Props.C17.SpecPreds

namespace Voi.Props.C17
open Voi.Model.Recoding

theorem sumD_radix2w (w : Nat) (f : Nat → Int) (k : Nat) :
    sumD w f (k + 1) = sumD w f k + f k * (2 ^ w) ^ k := by
  show sumD w f k + f k * 2 ^ (w * k) = _
  rw [pow_mul]

theorem sumD_radix16 (f : Nat → Int) (k : Nat) : sumD 4 f (k + 1) = sumD 4 f k + f k * 16 ^ k := by
  rw [sumD_radix2w]; norm_num

/-- C17, `Scalar.Bits`: the 256 output bytes are bits and `Σ bits[i]·2^i = n`. -/
theorem bits_value (n : Nat) (hn : n < 2 ^ 256) :
    (bits n).size = 256 ∧
    sumD 1 (dig (bits n)) 256 = (n : Int) ∧
    recon 1 (bits n).toList = (n : Int) ∧
    ∀ i, dig (bits n) i = 0 ∨ dig (bits n) i = 1 := by
  have hs := bits_sum n
  rw [Nat.mod_eq_of_lt hn] at hs
  exact ⟨bits_size n, hs, recon_of_sumD (bits_size n) hs, bits_01 n⟩

theorem bits_value_mod (n : Nat) : recon 1 (bits n).toList = ((n % 2 ^ 256 : Nat) : Int) :=
  recon_of_sumD (bits_size n) (bits_sum n)

theorem bits_ok (n : Nat) : bitsOk (bits n).toList = true :=
  bitsOk_of _ (bits_size n) (bits_01 n)

example : recon 1 (bits (2 ^ 255 - 19)).toList = 2 ^ 255 - 19 := by
  have := (bits_value (2 ^ 255 - 19) (by norm_num)).2.2.1
  rw [this]; norm_num

example : recon 1 (bits (2 ^ 256 - 1)).toList = 2 ^ 256 - 1 ∧ bitsOk (bits (2 ^ 256 - 1)).toList = true := by
  decide +kernel

/-- C17, `Scalar.NonAdjacentForm(w)`, value: `Σ_{i<256} naf[i]·2^i = n` for 2 ≤ w ≤ 8 and every `n < 2^255`. -/
theorem naf_value (w n : Nat) (a : Array Int) (hw : 2 ≤ w ∧ w ≤ 8) (hn : n < 2 ^ 255)
    (h : nonAdjacentForm w n = some a) :
    a.size = 256 ∧ sumD 1 (dig a) 256 = (n : Int) ∧ recon 1 a.toList = (n : Int) := by
  rw [nonAdjacentForm_eq w n hw] at h
  cases h
  obtain ⟨pos', hp, hinv⟩ := naf_inv w n hw hn
  have hs := hinv.toCarried.value_eq rfl (hn.trans_le (Nat.pow_le_pow_right (by decide) (by omega)))
  exact ⟨hinv.size, hs, recon_of_sumD hinv.size hs⟩

/-- no panic exactly on the documented widths -/
theorem naf_defined (w n : Nat) : (nonAdjacentForm w n).isSome = true ↔ 2 ≤ w ∧ w ≤ 8 := by
  unfold nonAdjacentForm
  by_cases h : w < 2 ∨ w > 8
  · simp [h]; omega
  · simp [h]; omega

/-- C17, `Scalar.NonAdjacentForm(w)`, shape: non-zero digits are odd, below 2^(w-1) in magnitude and at least `w`
    positions apart; every digit fits `int8`; and the array computed with 64-bit word windows and `int8` arithmetic is
    the array of digits computed over ℤ (`nafLoopZ`). -/
theorem naf_shape (w n : Nat) (a : Array Int) (hw : 2 ≤ w ∧ w ≤ 8) (hn : n < 2 ^ 255)
    (h : nonAdjacentForm w n = some a) :
    a.size = 256 ∧
    (∀ i, dig a i ≠ 0 →
      dig a i % 2 = 1 ∧ (dig a i).natAbs < 2 ^ (w - 1) ∧ ∀ j, i < j → j < i + w → dig a j = 0) ∧
    (∀ i, -128 < dig a i ∧ dig a i < 128) ∧
    a = nafLoopZ n w 256 0 0 (Array.replicate 256 0) := by
  rw [nonAdjacentForm_eq w n hw] at h
  cases h
  obtain ⟨pos', hp, hinv⟩ := naf_inv w n hw hn
  have hpow : (2 : Nat) ^ (w - 1) ≤ 2 ^ 7 := Nat.pow_le_pow_right (by decide) (by omega)
  refine ⟨hinv.size, fun i hi => (hinv.shape i hi).2, fun i => ?_, naf_exact w n hw.2 (by omega)⟩
  by_cases hi : dig (naf w n) i = 0
  · rw [hi]; omega
  · have := (hinv.shape i hi).2.2.1
    omega

theorem naf_shape_ok (w n : Nat) (a : Array Int) (hw : 2 ≤ w ∧ w ≤ 8) (hn : n < 2 ^ 255)
    (h : nonAdjacentForm w n = some a) : nafShapeOk w a.toList = true :=
  nafShapeOk_of w a (naf_shape w n a hw hn h).2.1

example : ∃ a, nonAdjacentForm 8 (2 ^ 255 - 1) = some a ∧ recon 1 a.toList = 2 ^ 255 - 1 := by
  refine ⟨naf 8 (2 ^ 255 - 1), nonAdjacentForm_eq _ _ (by omega), ?_⟩
  have := (naf_value 8 (2 ^ 255 - 1) _ (by omega) (by norm_num) (nonAdjacentForm_eq _ _ (by omega))).2.2
  rw [this]; norm_num

example : (nonAdjacentForm 8 (2 ^ 255 - 1)).map (fun a => (recon 1 a.toList, nafShapeOk 8 a.toList, a[0]!, a[255]!))
    = some (2 ^ 255 - 1, true, -1, 1) := by decide +kernel

example : (nonAdjacentForm 5 (2 ^ 255 - 19)).map (fun a => (recon 1 a.toList, nafShapeOk 5 a.toList))
    = some (2 ^ 255 - 19, true) := by decide +kernel

/-- `naf_value` needs `n < 2^255`: for `n = 2^256 - 1` the final carry is lost -/
example : (nonAdjacentForm 5 (2 ^ 256 - 1)).map (fun a => recon 1 a.toList) = some (-1) := by decide +kernel

/-- single `int8` conversions inside NonAdjacentForm do wrap (w = 7: `int8(width) = -128`; w = 8: `int8(width) = 0`,
    `int8(window)` negative); only the stored difference is exact -/
example : wrap8 (Int.ofNat (2 ^ 7)) = -128 ∧ wrap8 (Int.ofNat (2 ^ 8)) = 0 ∧ wrap8 (Int.ofNat 255) = -1 := by
  decide

/-- C17, `Scalar.ToRadix16`, value: `Σ_{i<64} r16[i]·16^i = n` for every `n < 2^256` (not only below 2^255). -/
theorem r16_value (n : Nat) (hn : n < 2 ^ 256) :
    (toRadix16 n).size = 64 ∧
    sumD 4 (dig (toRadix16 n)) 64 = (n : Int) ∧
    recon 4 (toRadix16 n).toList = (n : Int) := by
  have hinv := toRadix16_inv n
  have hv := hinv.value
  rw [Nat.mod_eq_of_lt hn] at hv
  exact ⟨hinv.size, hv, recon_of_sumD hinv.size hv⟩

/-- without `n < 2^255` the last digit is only in [0, 16] -/
theorem r16_bounds_wide (n : Nat) :
    (∀ i, i < 63 → -8 ≤ dig (toRadix16 n) i ∧ dig (toRadix16 n) i < 8) ∧
    0 ≤ dig (toRadix16 n) 63 ∧ dig (toRadix16 n) 63 ≤ 16 :=
  ⟨(toRadix16_inv n).done, (toRadix16_inv n).cur_range⟩

/-- C17, `Scalar.ToRadix16`, bounds for `n < 2^255`: [-8, 8) for the first 63 digits and [0, 8] for the last, tighter
    than the documented [-8, 8]; and no `int8` conversion changes a value (`recenterLoopZ`; that part needs no bound). -/
theorem r16_bounds (n : Nat) (hn : n < 2 ^ 255) :
    (∀ i, i < 63 → -8 ≤ dig (toRadix16 n) i ∧ dig (toRadix16 n) i < 8) ∧
    (0 ≤ dig (toRadix16 n) 63 ∧ dig (toRadix16 n) 63 ≤ 8) ∧
    toRadix16 n = recenterLoopZ 63 0 (nibbleLoop n 32 0 (Array.replicate 64 0)) := by
  have hinv := toRadix16_inv n
  have h63 : nib n 63 < 8 := (Nat.mod_le _ _).trans_lt (div_pow_lt n 255 (4 * 63) 3 hn (by omega))
  refine ⟨hinv.done, ?_, toRadix16_exact n⟩
  rcases hinv.cur with e | e <;> rw [e] <;> omega

theorem r16_ok (n : Nat) (hn : n < 2 ^ 255) : r16Ok (toRadix16 n).toList = true := by
  obtain ⟨h1, h2, _⟩ := r16_bounds n hn
  exact r16Ok_of _ (toRadix16_inv n).size h1 h2

example : recon 4 (toRadix16 (2 ^ 255 - 1)).toList = 2 ^ 255 - 1 := by
  have := (r16_value (2 ^ 255 - 1) (by norm_num)).2.2
  rw [this]; norm_num

example : recon 4 (toRadix16 (2 ^ 255 - 1)).toList = 2 ^ 255 - 1 ∧ r16Ok (toRadix16 (2 ^ 255 - 1)).toList = true
    ∧ (toRadix16 (2 ^ 255 - 1))[0]! = -1 ∧ (toRadix16 (2 ^ 255 - 1))[63]! = 8 := by decide +kernel

/-- the documented range [-8, 8] needs `n < 2^255`: above, the last digit reaches 16 (the value is still reconstructed) -/
example : (toRadix16 (2 ^ 256 - 1))[63]! = 16 ∧ recon 4 (toRadix16 (2 ^ 256 - 1)).toList = 2 ^ 256 - 1 := by
  decide +kernel

example : (toRadix16 (2 ^ 255 + 2 ^ 252 - 1))[63]! = 9 := by decide +kernel

/-- no panic exactly on the documented widths -/
theorem r2w_defined (w n : Nat) : (toRadix2w w n).isSome = true ↔ (w = 6 ∨ w = 7 ∨ w = 8) := by
  unfold toRadix2w toRadix2wSizeHint
  by_cases h6 : w = 6
  · simp [h6]
  · by_cases h7 : w = 7
    · simp [h7]
    · by_cases h8 : w = 8
      · simp [h8]
      · simp [h6, h7, h8]

theorem r2w_final (w n : Nat) (a : Array Int) (hw : w = 6 ∨ w = 7 ∨ w = 8) (hn : n < 2 ^ 256)
    (h : toRadix2w w n = some a) : a = radix2wZ w n ∧ R2wFinal n w a := by
  rw [toRadix2w_eq w n hw] at h
  cases h
  exact radix2w_exact_final w n hw hn

/-- C17, `Scalar.ToRadix2w(w)`, value: `Σ_{i<43} d[i]·2^(w·i) = n` for w ∈ {6,7,8} and every `n < 2^256` (not only
    below 2^255). -/
theorem r2w_value (w n : Nat) (a : Array Int) (hw : w = 6 ∨ w = 7 ∨ w = 8) (hn : n < 2 ^ 256)
    (h : toRadix2w w n = some a) :
    a.size = 43 ∧ sumD w (dig a) 43 = (n : Int) ∧ recon w a.toList = (n : Int) := by
  obtain ⟨_, hfin⟩ := r2w_final w n a hw hn h
  exact ⟨hfin.size, hfin.value, recon_of_sumD hfin.size hfin.value⟩

/-- wherever the terminal carry is placed, that digit is at most 8, hence within the bucket range -/
theorem terminal_le {w : Nat} {x : Int} (hw : w = 6 ∨ w = 7 ∨ w = 8) (h : x ≤ if w = 8 then 1 else 8) :
    x ≤ 8 ∧ x ≤ 2 ^ (w - 1) := by
  have h8 : x ≤ 8 := by split at h <;> omega
  have hpow : (8 : Int) ≤ 2 ^ (w - 1) := by rcases hw with rfl | rfl | rfl <;> norm_num
  exact ⟨h8, h8.trans hpow⟩

/-- C17, `Scalar.ToRadix2w(w)`, bounds for `n < 2^255`, with `t = terminalIdx w` (`digitsCount - 1` = 42, 36 for
    w = 6, 7; `digitsCount` = 32 for w = 8): digits below `t` are in [-2^(w-1), 2^(w-1)); digit `t` is in [0, 8] for
    w = 6, 7 (the carry out of the loop is 0, nothing is folded in) and is the carry, 0 or 1, for w = 8 (the extra
    digit); everything from `ToRadix2wSizeHint w = t + 1` on is zero; every digit fits `int8`, and no `uint64` shift
    drops a bit and no `int8` conversion changes a value (`radix2wZ`). -/
theorem r2w_bounds (w n : Nat) (a : Array Int) (hw : w = 6 ∨ w = 7 ∨ w = 8) (hn : n < 2 ^ 255)
    (h : toRadix2w w n = some a) :
    (∀ j, j < terminalIdx w → -(2 ^ (w - 1) : Int) ≤ dig a j ∧ dig a j < 2 ^ (w - 1)) ∧
    (0 ≤ dig a (terminalIdx w) ∧ dig a (terminalIdx w) ≤ (if w = 8 then 1 else 8)) ∧
    toRadix2wSizeHint w = some (terminalIdx w + 1) ∧
    (∀ j, terminalIdx w + 1 ≤ j → dig a j = 0) ∧
    (∀ j, -128 ≤ dig a j ∧ dig a j < 128) ∧
    a = radix2wZ w n := by
  obtain ⟨hex, hfin⟩ := r2w_final w n a hw (by omega) h
  have hq := div_pow_lt n 255 252 3 hn (by omega)
  have hterm : dig a (terminalIdx w) ≤ (if w = 8 then 1 else 8) := by
    have := hfin.terminal.2
    by_cases h8 : w = 8
    · simpa [h8] using this
    · simp only [h8, if_false] at this ⊢; omega
  have hpow : (2 : Int) ^ (w - 1) ≤ 128 := by rcases hw with rfl | rfl | rfl <;> norm_num
  refine ⟨hfin.interior, ⟨hfin.terminal.1, hterm⟩, toRadix2wSizeHint_eq hw, fun j hj => hfin.beyond j (by omega),
    fun j => ?_, hex⟩
  rcases Nat.lt_trichotomy j (terminalIdx w) with hj | hj | hj
  · have := hfin.interior j hj; omega
  · subst hj
    have := hfin.terminal.1
    have := (terminal_le hw hterm).1
    omega
  · rw [hfin.beyond j hj]; omega

theorem r2w_ok (w n : Nat) (a : Array Int) (hw : w = 6 ∨ w = 7 ∨ w = 8) (hn : n < 2 ^ 255)
    (h : toRadix2w w n = some a) : r2wOk w a.toList = true := by
  obtain ⟨h1, h2, _, h4, _, _⟩ := r2w_bounds w n a hw hn h
  exact r2wOk_of w a hw (r2w_value w n a hw (by omega) h).1 h1 ⟨h2.1, (terminal_le hw h2.2).2⟩ h4

example : ∃ a, toRadix2w 8 (2 ^ 255 - 1) = some a ∧ recon 8 a.toList = 2 ^ 255 - 1 := by
  refine ⟨radix2w 8 (2 ^ 255 - 1), toRadix2w_eq _ _ (by omega), ?_⟩
  have := (r2w_value 8 (2 ^ 255 - 1) _ (by omega) (by norm_num) (toRadix2w_eq _ _ (by omega))).2.2
  rw [this]; norm_num

example : (toRadix2w 8 (2 ^ 255 - 1)).map (fun a => (recon 8 a.toList, r2wOk 8 a.toList))
    = some (2 ^ 255 - 1, true) := by decide +kernel

example : (toRadix2w 8 (2 ^ 255 - 1)).map (fun a => [a[0]!, a[1]!, a[31]!, a[32]!, a[33]!])
    = some [-1, 0, -128, 1, 0] := by decide +kernel

example : (toRadix2w 6 (2 ^ 255 - 1)).map (fun a => (recon 6 a.toList, r2wOk 6 a.toList, a[42]!))
    = some (2 ^ 255 - 1, true, 8) := by decide +kernel

example : (toRadix2w 7 (2 ^ 255 - 19)).map (fun a => (recon 7 a.toList, r2wOk 7 a.toList, a[36]!, a[37]!))
    = some (2 ^ 255 - 19, true, 8, 0) := by decide +kernel

/-- what the 8-entry lookup tables need of a radix-16 digit -/
theorem r16_abs_le_8 (n : Nat) (hn : n < 2 ^ 255) (i : Nat) : (dig (toRadix16 n) i).natAbs ≤ 8 := by
  obtain ⟨h1, h2, _⟩ := r16_bounds n hn
  rcases Nat.lt_trichotomy i 63 with hi | hi | hi
  · have := h1 i hi; omega
  · subst hi; omega
  · rw [dig_of_size_le _ _ (by rw [(toRadix16_inv n).size]; omega)]; decide

theorem naf_digits (w n : Nat) (a : Array Int) (hw : 2 ≤ w ∧ w ≤ 8) (hn : n < 2 ^ 255)
    (h : nonAdjacentForm w n = some a) (i : Nat) :
    dig a i = 0 ∨ (dig a i % 2 = 1 ∧ (dig a i).natAbs < 2 ^ (w - 1)) := by
  by_cases h0 : dig a i = 0
  · exact Or.inl h0
  · obtain ⟨h1, h2, _⟩ := (naf_shape w n a hw hn h).2.1 i h0
    exact Or.inr ⟨h1, h2⟩

/-- `|d|/2` is the index into the 8-entry table of odd multiples -/
theorem naf5_digits (n : Nat) (a : Array Int) (hn : n < 2 ^ 255) (h : nonAdjacentForm 5 n = some a) (i : Nat) :
    dig a i = 0 ∨ (dig a i % 2 = 1 ∧ -15 ≤ dig a i ∧ dig a i ≤ 15 ∧ (dig a i).natAbs / 2 < 8) :=
  (naf_digits 5 n a (by omega) hn h i).imp_right fun ⟨h1, h2⟩ => by norm_num at h2; omega

/-- `|d|/2` is the index into the 64-entry table of odd multiples of the basepoint -/
theorem naf8_digits (n : Nat) (a : Array Int) (hn : n < 2 ^ 255) (h : nonAdjacentForm 8 n = some a) (i : Nat) :
    dig a i = 0 ∨ (dig a i % 2 = 1 ∧ -127 ≤ dig a i ∧ dig a i ≤ 127 ∧ (dig a i).natAbs / 2 < 64) :=
  (naf_digits 8 n a (by omega) hn h i).imp_right fun ⟨h1, h2⟩ => by norm_num at h2; omega

/-- Pippenger: a digit `d > 0` selects bucket `d - 1`, `d < 0` bucket `-d - 1`, out of `2^(w-1)` buckets; so
    `|d| ≤ 2^(w-1)` is what is needed. -/
theorem r2w_bucket_index (w n : Nat) (a : Array Int) (hw : w = 6 ∨ w = 7 ∨ w = 8) (hn : n < 2 ^ 255)
    (h : toRadix2w w n = some a) (j : Nat) : (dig a j).natAbs ≤ 2 ^ (w - 1) := by
  obtain ⟨h1, h2, _, h4, _, _⟩ := r2w_bounds w n a hw hn h
  have hcast : ((2 ^ (w - 1) : Nat) : Int) = (2 : Int) ^ (w - 1) := by push_cast; rfl
  rcases Nat.lt_trichotomy j (terminalIdx w) with hj | hj | hj
  · have := h1 j hj
    rw [← hcast] at this; omega
  · subst hj
    have := (terminal_le hw h2.2).2
    rw [← hcast] at this; omega
  · rw [h4 j (by omega)]; simp

example (i : Nat) : (dig (toRadix16 (2 ^ 255 - 1)) i).natAbs ≤ 8 := r16_abs_le_8 _ (by norm_num) i

example (a : Array Int) (h : nonAdjacentForm 5 (2 ^ 255 - 19) = some a) (i : Nat) :
    dig a i = 0 ∨ (dig a i % 2 = 1 ∧ -15 ≤ dig a i ∧ dig a i ≤ 15 ∧ (dig a i).natAbs / 2 < 8) :=
  naf5_digits _ a (by norm_num) h i

example (a : Array Int) (h : nonAdjacentForm 8 (2 ^ 255 - 1) = some a) (i : Nat) :
    dig a i = 0 ∨ (dig a i % 2 = 1 ∧ -127 ≤ dig a i ∧ dig a i ≤ 127 ∧ (dig a i).natAbs / 2 < 64) :=
  naf8_digits _ a (by norm_num) h i

example (a : Array Int) (h : toRadix2w 8 (2 ^ 255 - 1) = some a) (j : Nat) : (dig a j).natAbs ≤ 128 :=
  r2w_bucket_index 8 _ a (by omega) (by norm_num) h j

/-- the bucket bound is attained -/
example : (toRadix2w 8 (2 ^ 255 - 1)).map (fun a => (dig a 31).natAbs) = some 128 := by decide +kernel

#print axioms bits_value
#print axioms bits_value_mod
#print axioms naf_value
#print axioms naf_defined
#print axioms naf_shape
#print axioms r16_value
#print axioms r16_bounds
#print axioms r16_bounds_wide
#print axioms r2w_defined
#print axioms r2w_value
#print axioms r2w_bounds
#print axioms r16_abs_le_8
#print axioms naf5_digits
#print axioms naf8_digits
#print axioms r2w_bucket_index
#print axioms bits_ok
#print axioms naf_shape_ok
#print axioms r16_ok
#print axioms r2w_ok
#print axioms recon_toList
#print axioms sumD_radix16
#print axioms sumD_radix2w

end Voi.Props.C17

/-
Property C01: Ed25519 verification decides exactly the configured specification predicate.

Three objects over an interface `I`: `Model.Ed25519.verify I`, the code-shaped model of `verifyWithOptionsNoPanic`
(compared with the Go code by stream V2 at `I = concrete`); `SpecG.verify I`, the declarative predicate
(`Voi.Spec.Ed25519.verify` at `I = concrete`: `specG_concrete`); `Accepts I`, the same predicate as a `Prop`.

Every guard `if c then none else …` of a code-shaped function contributes the conjunct `¬ c` to the condition under
which it succeeds, so `unpackPublicKey`, `unpackSignature` and `verify` each get one lemma saying when they succeed, and
the 32 flag sets are never enumerated.  Model and predicate both decide `Accepts`; `model_eq_spec` follows, for every
instance whose carrier is a commutative group satisfying `Laws`, under `ExpHyp` and `ShortVecOK`.  All three are
theorems for the instance on the on-curve points (`Proofs/ConcreteIface`); `Props/C01Concrete` drops the hypotheses.
-/
import Mathlib.Tactic.Module
import Mathlib.RingTheory.Int.Basic
import Mathlib.Data.ZMod.Basic
import Mathlib.Tactic.NormNum.Prime
import Voi.Model.Ed25519
import Voi.Props.LatticeInv
import Voi.Props.BytesMore

namespace Voi.Props.C01
open Voi Voi.Spec Voi.Model.Ed25519
open Voi.Spec.Ed25519 (VOpts Dom dom2)

section Concrete
-- the two bodies are compared as they are written: nothing below evaluates a Spec function
attribute [local irreducible] Pt.decode bslice Pt.mul8 Pt.isZero Pt.smul Pt.add Pt.neg Pt.encode Pt.isCanonicalEnc
  leNat sha512 dom2 Voi.beq Pt.B

/-- The bodies agree after unfolding the interface projections, `Pt.sub` and `Pt.isSmallOrder`; the case split only
    lines up the two auxiliary `match` functions, which plain `rfl` does not get through. -/
theorem specG_concrete (o : VOpts) (f : Dom) (ctx pk msg sig : Bytes) :
    SpecG.verify concrete o f ctx pk msg sig = Voi.Spec.Ed25519.verify o f ctx pk msg sig := by
  rcases h1 : Pt.decode pk with _ | A <;> rcases h2 : Pt.decode (bslice sig 0 32) with _ | R <;>
  simp only [SpecG.verify, Voi.Spec.Ed25519.verify, SpecG.challenge, Voi.Spec.Ed25519.challenge, concrete,
    Pt.sub, Pt.isSmallOrder, h1, h2] <;> rfl
end Concrete

section Algebra
variable {G : Type} [AddCommGroup G]

theorem zsmul_emod_of_smul_eq_zero {L : ℕ} {B : G} (hLB : L • B = 0) (z : ℤ) : (z % (L : ℤ)) • B = z • B := by
  have hB : (L : ℤ) • B = 0 := by rw [natCast_zsmul]; exact hLB
  rw [Int.emod_def, sub_smul, mul_comm, mul_smul, hB, smul_zero, sub_zero]

theorem nsmul_mod_of_smul_eq_zero {L : ℕ} {B : G} (hLB : L • B = 0) (n : ℕ) : (n % L) • B = n • B :=
  (nsmul_eq_mod_nsmul n hLB).symm

/-- `8•Y = d1•(8•X)` where `Y` is the δ-scaled combination and `X = a•A' + b•B − C`: the difference is
    `(d0 − d1·a)•A'`, a multiple of `L` times `A'` (killed by `8•` through `hExp`), plus a multiple of `L•B = 0`. -/
theorem delta_core {L : ℕ} {B : G} (hLB : L • B = 0) (hExp : ∀ P : G, (8 * L) • P = 0)
    {d0 d1 : ℤ} {a b : ℕ} (hcong : (L : ℤ) ∣ d0 - d1 * a) (A' C : G) :
    (8 : ℕ) • (d0 • A' + (d1 * b % L) • B - d1 • C) = d1 • ((8 : ℕ) • (a • A' + b • B - C)) := by
  obtain ⟨m, hm⟩ := hcong
  have : (8 : ℕ) • ((d1 * a + L * m) • A' + (d1 * b) • B - d1 • C)
      = d1 • ((8 : ℕ) • (a • A' + b • B - C)) + m • ((8 * L) • A') := by
    module
  rw [zsmul_emod_of_smul_eq_zero hLB, eq_add_of_sub_eq' hm, this, hExp, smul_zero, add_zero]

theorem smul_eq_zero_of_coprime {L : ℕ} {d1 : ℤ} (hcop : IsCoprime d1 (L : ℤ)) {Z : G} (hLZ : L • Z = 0)
    (hd : d1 • Z = 0) : Z = 0 := by
  obtain ⟨u, v, huv⟩ := hcop
  have hLZ' : (L : ℤ) • Z = 0 := by rw [natCast_zsmul]; exact hLZ
  calc Z = (1 : ℤ) • Z := (one_smul _ _).symm
    _ = (u * d1 + v * L) • Z := by rw [huv]
    _ = 0 := by rw [add_smul, mul_smul, mul_smul, hd, hLZ', smul_zero, smul_zero, add_zero]

theorem isCoprime_of_prime_not_dvd {L : ℕ} (hp : Nat.Prime L) {d1 : ℤ} (hnd : ¬ (L : ℤ) ∣ d1) :
    IsCoprime d1 (L : ℤ) :=
  ((Nat.prime_iff_prime_int.1 hp).coprime_iff_not_dvd.2 hnd).symm

/-- δ-soundness, the group-level clause of C16: for points `A'`, `C` with any torsion component, the δ-scaled check
    `[8](…) = 0` is equivalent to the plain cofactored check. -/
theorem delta_sound_of_coprime {L : ℕ} {B : G} (hLB : L • B = 0) (hExp : ∀ P : G, (8 * L) • P = 0)
    {d0 d1 : ℤ} {a b : ℕ} (hcong : (L : ℤ) ∣ d0 - d1 * a) (hcop : IsCoprime d1 (L : ℤ)) (A' C : G) :
    (8 : ℕ) • (d0 • A' + (d1 * b % L) • B - d1 • C) = 0 ↔ (8 : ℕ) • (a • A' + b • B - C) = 0 := by
  rw [delta_core hLB hExp hcong]
  refine ⟨smul_eq_zero_of_coprime hcop ?_, fun hz => by rw [hz, smul_zero]⟩
  rw [smul_smul, mul_comm]
  exact hExp _

theorem delta_sound {L : ℕ} {B : G} (hL : Nat.Prime L) (hLB : L • B = 0) (hExp : ∀ P : G, (8 * L) • P = 0)
    {d0 d1 : ℤ} {a b : ℕ} (hcong : (L : ℤ) ∣ d0 - d1 * a) (hnd : ¬ (L : ℤ) ∣ d1) (A' C : G) :
    (8 : ℕ) • (d0 • A' + (d1 * b % L) • B - d1 • C) = 0 ↔ (8 : ℕ) • (a • A' + b • B - C) = 0 :=
  delta_sound_of_coprime hLB hExp hcong (isCoprime_of_prime_not_dvd hL hnd) A' C

/-- completeness: the honest response `(k + c·x) mod L` satisfies the verification equation exactly -/
theorem response_equation {L : ℕ} {P : G} (hLP : L • P = 0) (x k c : ℕ) :
    ((k + c * x) % L) • P - c • (x • P) = k • P := by
  rw [nsmul_mod_of_smul_eq_zero hLP, add_smul, mul_smul]; abel

/-- special soundness: two accepting transcripts `(c₁, s₁)`, `(c₂, s₂)` for one commitment `U` -/
theorem transcripts_sub {P Q U : G} {s₁ c₁ s₂ c₂ : ℕ} (h₁ : U = s₁ • P - c₁ • Q) (h₂ : U = s₂ • P - c₂ • Q) :
    ((s₁ : ℤ) - s₂) • P = ((c₁ : ℤ) - c₂) • Q := by
  rw [sub_smul, sub_smul, natCast_zsmul, natCast_zsmul, natCast_zsmul, natCast_zsmul, sub_eq_sub_iff_sub_eq_sub,
    ← h₁, ← h₂]

theorem dvd_of_zsmul_eq_zero {L : ℕ} (hL : Nat.Prime L) {Z : G} (hLZ : L • Z = 0) (hZ : Z ≠ 0) {n : ℤ}
    (hn : n • Z = 0) : (L : ℤ) ∣ n := by
  by_contra hnd
  exact hZ (smul_eq_zero_of_coprime (isCoprime_of_prime_not_dvd hL hnd) hLZ hn)

theorem eq_of_lt_of_dvd_sub {L a b : ℕ} (ha : a < L) (hb : b < L) (h : (L : ℤ) ∣ (a : ℤ) - b) : a = b :=
  ((Nat.modEq_iff_dvd.2 h).eq_of_lt_of_lt hb ha).symm

end Algebra

/-- What the proofs use of an interface instance whose carrier is a commutative group.  For edwards25519 every field
    is a theorem (`ConcreteIface.onCurve_laws`). -/
structure Laws (I : EdIface) [AddCommGroup I.G] : Prop where
  zero_eq : I.zero = 0
  add_eq : ∀ P Q : I.G, I.add P Q = P + Q
  neg_eq : ∀ P : I.G, I.neg P = -P
  smul_eq : ∀ (n : ℕ) (P : I.G), I.smul n P = n • P
  L_prime : Nat.Prime I.L
  coprime8 : Nat.Coprime 8 I.L
  /-- reduced scalars fit 32 bytes -/
  L_lt : I.L < 2 ^ 256
  L_B : I.L • I.B = 0
  isSmallOrder_iff : ∀ P : I.G, I.isSmallOrder P = true ↔ (8 : ℕ) • P = 0
  decode_encode : ∀ P : I.G, I.decode (I.encode P) = some P
  canonical_encode : ∀ P : I.G, I.isCanonicalEnc (I.encode P) = true
  encode_size : ∀ P : I.G, (I.encode P).size = 32
  scMinimal_iff : ∀ b : Bytes, b.size = 32 → (I.scMinimal b = true ↔ leNat b < I.L)

/-- For edwards25519 a theorem: `ConcreteIface.onCurve_expHyp`, from `#E = 8·L` (`Proofs/GroupOrder`). -/
def ExpHyp (I : EdIface) [AddCommGroup I.G] : Prop := ∀ P : I.G, (8 * I.L) • P = 0

/-- what `Props/LatticeInv` proves about `(d0, d1) = FindShortVector k` -/
def ShortVecOK (I : EdIface) (k : ℕ) : Prop :=
  (I.L : ℤ) ∣ (I.shortVec k).1 - (I.shortVec k).2 * k ∧ ¬ (I.L : ℤ) ∣ (I.shortVec k).2

/-- `Finished k`: the exit test fired within the model's fuel of 4096 iterations.  `LatticeFuel.finished_of_lt` proves
    it for every `k < 2^512` (`ConcreteIface.concrete_shortVecOK'`). -/
theorem concrete_shortVecOK (k : ℕ) (hf : Voi.Props.LatticeInv.Finished k) : ShortVecOK concrete k := by
  have hL : ((concrete.L : ℕ) : ℤ) = Voi.Model.Lattice.L := by decide
  refine ⟨?_, ?_⟩
  · rw [hL]; exact Voi.Props.LatticeInv.fsv_congr k
  · rw [hL]; exact Voi.Props.LatticeInv.fsv_d1_not_dvd hf

theorem concrete_coprime8 : Nat.Coprime 8 concrete.L := by decide
theorem concrete_L_lt : concrete.L < 2 ^ 256 := by decide

theorem Laws.isSmallOrder_eq_false_iff {I : EdIface} [AddCommGroup I.G] (h : Laws I) (P : I.G) :
    I.isSmallOrder P = false ↔ ¬ (8 : ℕ) • P = 0 := by
  rw [← h.isSmallOrder_iff, Bool.not_eq_true]

theorem Laws.encode_injective {I : EdIface} [AddCommGroup I.G] (h : Laws I) : Function.Injective I.encode := by
  intro P Q hPQ
  have := h.decode_encode P
  rw [hPQ, h.decode_encode Q] at this
  exact (Option.some.inj this).symm

/-- Why the decompression of R may be skipped under `CofactorlessVerify ∧ AllowSmallOrderR`: R bytes that equal the
    canonical encoding of a point decode. -/
theorem decode_of_encode_eq {I : EdIface} [AddCommGroup I.G] (h : Laws I) {X : I.G} {rBytes : Bytes}
    (he : I.encode X = rBytes) : I.decode rBytes = some X := he ▸ h.decode_encode X

theorem sigS_size {sig : Bytes} (hsz : sig.size = 64) : (bslice sig 32 32).size = 32 :=
  Bytes.bslice_size_of_le (Nat.le_of_eq hsz.symm)

theorem bslice_append_left {a b : Bytes} {n : ℕ} (ha : a.size = n) : bslice (a ++ b) 0 n = a :=
  ByteArray.extract_append_eq_left (by rw [ha, Nat.zero_add])

theorem bslice_append_right {a b : Bytes} {n m : ℕ} (ha : a.size = n) (hb : b.size = m) :
    bslice (a ++ b) n m = b :=
  ByteArray.extract_append_eq_right ha.symm (by rw [ha, hb])

section Values
variable {I : EdIface} [AddCommGroup I.G]

theorem double_value (h : Laws I) (a : ℕ) (A : I.G) (b : ℕ) :
    doubleScalarMulBasepoint I a A b = a • A + b • I.B := by
  simp only [doubleScalarMulBasepoint, h.add_eq, h.smul_eq]

theorem natAbs_smul_of_nonneg {d : ℤ} (hd : 0 ≤ d) (P : I.G) : d.natAbs • P = d • P := by
  rw [← natCast_zsmul, Int.natAbs_of_nonneg hd]

theorem natAbs_smul_of_neg {d : ℤ} (hd : d < 0) (P : I.G) : d.natAbs • P = -(d • P) := by
  rw [← natCast_zsmul, Int.ofNat_natAbs_of_nonpos hd.le, neg_smul]

theorem scNeg_smul (h : Laws I) (b : ℕ) : scNeg I b • I.B = -(b • I.B) := by
  unfold scNeg
  rw [nsmul_mod_of_smul_eq_zero h.L_B, eq_neg_iff_add_eq_zero, ← nsmul_mod_of_smul_eq_zero h.L_B b, ← add_smul,
    Nat.sub_add_cancel (Nat.mod_lt _ h.L_prime.pos).le, h.L_B]

/-- the value of `TripleScalarMulBasepointVartime(a, A, b, C)`, with `(d0, d1) = FindShortVector(a)` -/
theorem triple_value (h : Laws I) (a : ℕ) (A : I.G) (b : ℕ) (C : I.G) :
    tripleScalarMulBasepoint I a A b C
      = (I.shortVec a).1 • A + ((I.shortVec a).2 * b % (I.L : ℤ)) • I.B - (I.shortVec a).2 • C := by
  unfold tripleScalarMulBasepoint
  simp only [h.add_eq, h.smul_eq, h.neg_eq, decide_eq_true_eq]
  generalize (I.shortVec a).1 = d0
  generalize (I.shortVec a).2 = d1
  rw [zsmul_emod_of_smul_eq_zero h.L_B, nsmul_mod_of_smul_eq_zero h.L_B, mul_comm _ d1.natAbs, mul_smul, mul_smul,
    natCast_zsmul]
  have hA : (if d0 < 0 then -(d0.natAbs • A) else d0.natAbs • A) = d0 • A := by
    split_ifs with hd
    · rw [natAbs_smul_of_neg hd, neg_neg]
    · exact natAbs_smul_of_nonneg (not_lt.1 hd) A
  rw [hA]
  -- the sign of `d1` sits on `b` and `C`
  split_ifs with hd
  · rw [scNeg_smul h, natAbs_smul_of_neg hd, natAbs_smul_of_neg hd, smul_neg, neg_neg]; abel
  · rw [natAbs_smul_of_nonneg (not_lt.1 hd), natAbs_smul_of_nonneg (not_lt.1 hd), smul_neg]; abel

/-- `IsSmallOrder` of the δ-scaled triple product is the plain cofactored check. -/
theorem triple_isSmallOrder_iff (h : Laws I) (hExp : ExpHyp I) {k : ℕ} (hsv : ShortVecOK I k) (A : I.G) (s : ℕ)
    (R : I.G) :
    I.isSmallOrder (tripleScalarMulBasepoint I k (I.neg A) s R) = true ↔ (8 : ℕ) • (s • I.B - k • A - R) = 0 := by
  rw [h.isSmallOrder_iff, triple_value h, delta_sound h.L_prime h.L_B hExp hsv.1 hsv.2, h.neg_eq]
  have : k • -A + s • I.B - R = s • I.B - k • A - R := by rw [smul_neg]; abel
  rw [this]

/-- the `e_0`/`e_1` split of `δb` inside the multiplication, `[e_0]B + [e_1]([2^128]B)` with the precomputed table of
    `[2^128]B`, has the value `[δb]B` that `tripleScalarMulBasepoint` uses -/
theorem split_value {G : Type} [AddCommGroup G] (B : G) (db : ℕ) :
    (db % 2 ^ 128) • B + (db / 2 ^ 128) • ((2 ^ 128 : ℕ) • B) = db • B := by
  rw [← mul_smul, ← add_smul, mul_comm, Nat.mod_add_div]

end Values

section Admission

theorem ite_false_eq_true {c : Prop} [Decidable c] {b : Bool} :
    (if c then false else b) = true ↔ ¬ c ∧ b = true := by
  split_ifs with h <;> simp [h]

theorem not_flag {allow bad : Bool} : ¬ (!allow && bad) = true ↔ (allow = false → bad = false) := by
  cases allow <;> cases bad <;> decide

variable (I : EdIface)

theorem unpackPublicKey_eq_some {o : VOpts} {pk : Bytes} {A : I.G} :
    unpackPublicKey I o pk = some A ↔ I.decode pk = some A ∧ (o.smallA = false → I.isSmallOrder A = false) ∧
      (o.nonCanA = false → I.isCanonicalEnc pk = true) := by
  unfold unpackPublicKey
  cases I.decode pk with
  | none => simp
  | some A' =>
    simp only [Option.ite_none_left_eq_some, not_flag, Bool.not_eq_false', Option.some.injEq]
    constructor
    · rintro ⟨h1, h2, rfl⟩; exact ⟨rfl, h1, h2⟩
    · rintro ⟨rfl, h1, h2⟩; exact ⟨h1, h2, rfl⟩

/-- the "Unpack R" step of `unpackSignature` -/
def unpackR (o : VOpts) (rBytes : Bytes) : Option I.G :=
  if verifyNeedsDecompressedR o then
    match I.decode rBytes with
    | none => none
    | some R => if !o.smallR && I.isSmallOrder R then none else some R
  else some I.zero

theorem unpackR_eq_some {o : VOpts} {rBytes : Bytes} {R : I.G} :
    unpackR I o rBytes = some R ↔
      if verifyNeedsDecompressedR o = true then
        I.decode rBytes = some R ∧ (o.smallR = false → I.isSmallOrder R = false)
      else I.zero = R := by
  unfold unpackR
  split_ifs
  · cases I.decode rBytes with
    | none => simp
    | some R' =>
      simp only [Option.ite_none_left_eq_some, not_flag, Option.some.injEq]
      constructor
      · rintro ⟨h, rfl⟩; exact ⟨rfl, h⟩
      · rintro ⟨rfl, h⟩; exact ⟨h, rfl⟩
  · exact Option.some_inj

/-- `S` is kept as the right side of an equation and never substituted: `subst` on `leNat … % I.L` is slow. -/
theorem unpackSignature_eq_some {o : VOpts} {sig : Bytes} {R : I.G} {S : ℕ} :
    unpackSignature I o sig = some (R, S) ↔
      sig.size = 64 ∧ I.scMinimal (bslice sig 32 32) = true ∧ unpackR I o (bslice sig 0 32) = some R ∧
      (o.nonCanR = false → I.isCanonicalEnc (bslice sig 0 32) = true) ∧ leNat (bslice sig 32 32) % I.L = S := by
  have : unpackSignature I o sig = if sig.size ≠ 64 then none else if !I.scMinimal (bslice sig 32 32) then none else
      match unpackR I o (bslice sig 0 32) with
      | none => none
      | some R => if !o.nonCanR && !I.isCanonicalEnc (bslice sig 0 32) then none
        else some (R, leNat (bslice sig 32 32) % I.L) := rfl
  rw [this]
  cases unpackR I o (bslice sig 0 32) with
  | none => simp
  | some R' =>
    simp only [Option.ite_none_left_eq_some, ne_eq, not_not, Bool.not_eq_true', Bool.not_eq_false, not_flag, Bool.not_eq_false',
      Option.some.injEq, Prod.mk.injEq, and_left_comm]

theorem verify_eq_true {o : VOpts} {f : Dom} {ctx pk msg sig : Bytes} :
    verify I o f ctx pk msg sig = true ↔ ∃ A R S, unpackPublicKey I o pk = some A ∧
      unpackSignature I o sig = some (R, S) ∧
      if o.cofactorless = true then
        cofactorlessVerify I (doubleScalarMulBasepoint I (hram I f ctx sig pk msg) (I.neg A) S) sig = true
      else I.isSmallOrder (tripleScalarMulBasepoint I (hram I f ctx sig pk msg) (I.neg A) S R) = true := by
  unfold verify
  cases unpackPublicKey I o pk with
  | none => simp
  | some A =>
    cases unpackSignature I o sig with
    | none => simp
    | some RS => obtain ⟨R, S⟩ := RS; simp

theorem not_needsR {o : VOpts} : ¬ verifyNeedsDecompressedR o = true ↔ o.cofactorless = true ∧ o.smallR = true := by
  unfold verifyNeedsDecompressedR; cases o.cofactorless <;> cases o.smallR <;> decide

/-- Holds for every interface, without laws; the rejection clauses of C01 (`reject_*`) are its components. -/
theorem verify_admitted {o : VOpts} {f : Dom} {ctx pk msg sig : Bytes} (hv : verify I o f ctx pk msg sig = true) :
    sig.size = 64 ∧ I.scMinimal (bslice sig 32 32) = true ∧
    (∃ A, I.decode pk = some A ∧ (o.smallA = false → I.isSmallOrder A = false)) ∧
    (o.nonCanA = false → I.isCanonicalEnc pk = true) ∧
    (o.smallR = false → ∃ R, I.decode (bslice sig 0 32) = some R ∧ I.isSmallOrder R = false) ∧
    (o.nonCanR = false → I.isCanonicalEnc (bslice sig 0 32) = true) := by
  obtain ⟨A, R, S, hA, hRS, -⟩ := (verify_eq_true I).1 hv
  obtain ⟨hdA, hsA, hcA⟩ := (unpackPublicKey_eq_some I).1 hA
  obtain ⟨hsz, hmin, hR, hcR, -⟩ := (unpackSignature_eq_some I).1 hRS
  refine ⟨hsz, hmin, ⟨A, hdA, hsA⟩, hcA, fun ho => ?_, hcR⟩
  have hn : verifyNeedsDecompressedR o = true := by simp [verifyNeedsDecompressedR, ho]
  rw [unpackR_eq_some, if_pos hn] at hR
  exact ⟨R, hR.1, hR.2 ho⟩

/-- small-order A is accepted only under `AllowSmallOrderA` -/
theorem reject_smallOrder_A (o : VOpts) (f : Dom) (ctx pk msg sig : Bytes) (ho : o.smallA = false) {A : I.G}
    (hd : I.decode pk = some A) (hA : I.isSmallOrder A = true) : verify I o f ctx pk msg sig = false := by
  rw [← Bool.not_eq_true]
  intro hv
  obtain ⟨A', hd', hs⟩ := (verify_admitted I hv).2.2.1
  rw [hd] at hd'; cases hd'
  rw [hs ho] at hA; cases hA

/-- small-order R is accepted only under `AllowSmallOrderR` -/
theorem reject_smallOrder_R (o : VOpts) (f : Dom) (ctx pk msg sig : Bytes) (ho : o.smallR = false) {R : I.G}
    (hd : I.decode (bslice sig 0 32) = some R) (hR : I.isSmallOrder R = true) :
    verify I o f ctx pk msg sig = false := by
  rw [← Bool.not_eq_true]
  intro hv
  obtain ⟨R', hd', hs⟩ := (verify_admitted I hv).2.2.2.2.1 ho
  rw [hd] at hd'; cases hd'
  rw [hs] at hR; cases hR

/-- a non-canonical A is accepted only under `AllowNonCanonicalA` -/
theorem reject_nonCanonical_A (o : VOpts) (f : Dom) (ctx pk msg sig : Bytes) (ho : o.nonCanA = false)
    (hc : I.isCanonicalEnc pk = false) : verify I o f ctx pk msg sig = false := by
  rw [← Bool.not_eq_true]
  intro hv
  rw [(verify_admitted I hv).2.2.2.1 ho] at hc; cases hc

/-- a non-canonical R is accepted only under `AllowNonCanonicalR` -/
theorem reject_nonCanonical_R (o : VOpts) (f : Dom) (ctx pk msg sig : Bytes) (ho : o.nonCanR = false)
    (hc : I.isCanonicalEnc (bslice sig 0 32) = false) : verify I o f ctx pk msg sig = false := by
  rw [← Bool.not_eq_true]
  intro hv
  rw [(verify_admitted I hv).2.2.2.2.2 ho] at hc; cases hc

end Admission

section Main
variable (I : EdIface) [AddCommGroup I.G]

/-- The statement of property C01 as a proposition.  R is required to decode also under
    `CofactorlessVerify ∧ AllowSmallOrderR`, where neither function decodes it: there the byte comparison supplies the
    point (`decode_of_encode_eq`). -/
def Accepts (o : VOpts) (f : Dom) (ctx pk msg sig : Bytes) : Prop :=
  sig.size = 64 ∧ leNat (bslice sig 32 32) < I.L ∧
  ∃ A R : I.G, I.decode pk = some A ∧ I.decode (bslice sig 0 32) = some R ∧
    (o.smallA = false → (8 : ℕ) • A ≠ 0) ∧ (o.smallR = false → (8 : ℕ) • R ≠ 0) ∧
    (o.nonCanA = false → I.isCanonicalEnc pk = true) ∧
    (o.nonCanR = false → I.isCanonicalEnc (bslice sig 0 32) = true) ∧
    (if o.cofactorless = true then
      I.encode (leNat (bslice sig 32 32) • I.B - SpecG.challenge I f ctx (bslice sig 0 32) pk msg • A)
        = bslice sig 0 32
     else
      (8 : ℕ) • (leNat (bslice sig 32 32) • I.B - SpecG.challenge I f ctx (bslice sig 0 32) pk msg • A - R) = 0)

theorem cofactorlessVerify_iff (h : Laws I) (k s : ℕ) (A : I.G) (sig : Bytes) :
    cofactorlessVerify I (doubleScalarMulBasepoint I k (I.neg A) s) sig = true ↔
      I.encode (s • I.B - k • A) = bslice sig 0 32 := by
  rw [cofactorlessVerify, Bytes.beq_iff, double_value h, h.neg_eq, smul_neg, neg_add_eq_sub]

/-- The lattice hypothesis is needed only at the challenge `k = hram …` of this very input. -/
theorem model_verify_iff_at (h : Laws I) (hExp : ExpHyp I)
    (o : VOpts) (f : Dom) (ctx pk msg sig : Bytes) (hsv : ShortVecOK I (hram I f ctx sig pk msg)) :
    verify I o f ctx pk msg sig = true ↔ Accepts I o f ctx pk msg sig := by
  simp only [verify_eq_true, unpackPublicKey_eq_some, unpackSignature_eq_some, unpackR_eq_some,
    cofactorlessVerify_iff I h, triple_isSmallOrder_iff h hExp hsv, h.isSmallOrder_eq_false_iff]
  have hk : SpecG.challenge I f ctx (bslice sig 0 32) pk msg = hram I f ctx sig pk msg := rfl
  unfold Accepts
  rw [hk]
  constructor
  · rintro ⟨A, R, S, ⟨hA, hsA, hcA⟩, ⟨hsz, hmin, hR, hcR, hS⟩, hv⟩
    have hs := (h.scMinimal_iff _ (sigS_size hsz)).1 hmin
    rw [← hS, Nat.mod_eq_of_lt hs] at hv
    refine ⟨hsz, hs, A, ?_⟩
    split_ifs at hR with hn
    · exact ⟨R, hA, hR.1, hsA, hR.2, hcA, hcR, hv⟩
    · -- R was not decompressed: the byte comparison supplies the point
      obtain ⟨hc, hr⟩ := not_needsR.1 hn
      rw [if_pos hc] at hv
      exact ⟨_, hA, decode_of_encode_eq h hv, hsA, fun ho => absurd (hr ▸ ho) (by decide), hcA, hcR,
        (if_pos hc).symm ▸ hv⟩
  · rintro ⟨hsz, hs, A, R, hA, hR, hsA, hsR, hcA, hcR, hv⟩
    have hmin := (h.scMinimal_iff _ (sigS_size hsz)).2 hs
    by_cases hn : verifyNeedsDecompressedR o = true
    · exact ⟨A, R, _, ⟨hA, hsA, hcA⟩, ⟨hsz, hmin, by rw [if_pos hn]; exact ⟨hR, hsR⟩, hcR, Nat.mod_eq_of_lt hs⟩, hv⟩
    · refine ⟨A, I.zero, _, ⟨hA, hsA, hcA⟩, ⟨hsz, hmin, by rw [if_neg hn], hcR, Nat.mod_eq_of_lt hs⟩, ?_⟩
      rw [if_pos (not_needsR.1 hn).1] at hv ⊢; exact hv

theorem specG_verify_iff (h : Laws I) (o : VOpts) (f : Dom) (ctx pk msg sig : Bytes) :
    SpecG.verify I o f ctx pk msg sig = true ↔ Accepts I o f ctx pk msg sig := by
  unfold SpecG.verify Accepts
  simp only [ite_false_eq_true, ne_eq, not_not, Bool.not_eq_true', Bool.not_eq_false, decide_eq_true_eq]
  refine and_congr_right fun _ => and_congr_right fun _ => ?_
  cases I.decode pk with
  | none => simp
  | some A =>
    simp only [ite_false_eq_true, not_flag, Bool.not_eq_false', h.isSmallOrder_eq_false_iff, Option.some.injEq,
      exists_and_left, exists_eq_left', h.add_eq, h.neg_eq, h.smul_eq, ← sub_eq_add_neg]
    cases hd : I.decode (bslice sig 0 32) with
    | none =>
      -- R does not decode, so no canonical encoding equals the R bytes: the cofactorless branch fails as well
      have hne : ∀ X, beq (I.encode X) (bslice sig 0 32) = false := fun X => by
        rw [← Bool.not_eq_true, Bytes.beq_iff]
        intro he
        rw [decode_of_encode_eq h he] at hd; cases hd
      simp [hne]
    | some R =>
      cases o.cofactorless
      · simp only [ite_false_eq_true, not_flag, h.isSmallOrder_iff, h.isSmallOrder_eq_false_iff, Option.some.injEq,
          exists_eq_left', Bool.false_eq_true, if_false]
        tauto
      · simp only [if_true, Bool.and_eq_true, Bytes.beq_iff, Bool.ite_eq_true_distrib, if_true_right, Bool.not_eq_true',
          h.isSmallOrder_eq_false_iff, Option.some.injEq, exists_eq_left']
        tauto

theorem model_eq_spec_at (h : Laws I) (hExp : ExpHyp I)
    (o : VOpts) (f : Dom) (ctx pk msg sig : Bytes) (hsv : ShortVecOK I (hram I f ctx sig pk msg)) :
    verify I o f ctx pk msg sig = SpecG.verify I o f ctx pk msg sig :=
  Bool.eq_iff_iff.2 ((model_verify_iff_at I h hExp o f ctx pk msg sig hsv).trans
    (specG_verify_iff I h o f ctx pk msg sig).symm)

/-- C01: model = specification.  It holds also for the pair NonCanonicalR ∧ Cofactorless, which the entry points
    reject before `verify` is reached (`Model.mode`). -/
theorem model_eq_spec (h : Laws I) (hExp : ExpHyp I) (hsv : ∀ k, k < I.L → ShortVecOK I k)
    (o : VOpts) (f : Dom) (ctx pk msg sig : Bytes) :
    verify I o f ctx pk msg sig = SpecG.verify I o f ctx pk msg sig :=
  model_eq_spec_at I h hExp o f ctx pk msg sig (hsv _ (Nat.mod_lt _ h.L_prime.pos))

end Main

section Corollaries
variable (I : EdIface) [AddCommGroup I.G]

/-- restricted to the option sets that reach `verify` (`C02.mode_admissible`); the restriction is not needed -/
theorem model_eq_spec' (h : Laws I) (hExp : ExpHyp I) (hsv : ∀ k, k < I.L → ShortVecOK I k)
    (o : VOpts) (_ho : ¬ (o.nonCanR = true ∧ o.cofactorless = true)) (f : Dom) (ctx pk msg sig : Bytes) :
    verify I o f ctx pk msg sig = SpecG.verify I o f ctx pk msg sig :=
  model_eq_spec I h hExp hsv o f ctx pk msg sig

theorem model_verify_iff (h : Laws I) (hExp : ExpHyp I) (hsv : ∀ k, k < I.L → ShortVecOK I k)
    (o : VOpts) (f : Dom) (ctx pk msg sig : Bytes) :
    verify I o f ctx pk msg sig = true ↔ Accepts I o f ctx pk msg sig :=
  model_verify_iff_at I h hExp o f ctx pk msg sig (hsv _ (Nat.mod_lt _ h.L_prime.pos))

/-! The next two carry the hypotheses of `model_eq_spec` in their statements; `verify_admitted` needs none of them. -/

set_option linter.unusedVariables false in
/-- no malleability through S -/
theorem verify_S_lt_L (h : Laws I) (hExp : ExpHyp I) (hsv : ∀ k, k < I.L → ShortVecOK I k)
    (o : VOpts) (f : Dom) (ctx pk msg sig : Bytes) (hv : verify I o f ctx pk msg sig = true) :
    leNat (bslice sig 32 32) < I.L :=
  (h.scMinimal_iff _ (sigS_size (verify_admitted I hv).1)).1 (verify_admitted I hv).2.1

set_option linter.unusedVariables false in
theorem verify_sig_size (h : Laws I) (hExp : ExpHyp I) (hsv : ∀ k, k < I.L → ShortVecOK I k)
    (o : VOpts) (f : Dom) (ctx pk msg sig : Bytes) (hv : verify I o f ctx pk msg sig = true) : sig.size = 64 :=
  (verify_admitted I hv).1

/-! The flag sets of the presets are written out, so that each statement shows which tests are switched off; the
`example`s tie them to the named presets of the specification. -/

/-- StdLib preset `{SmallOrderA, SmallOrderR, NonCanonicalA, Cofactorless}`, the algorithm of Go's `crypto/ed25519`.
    R is never decoded; its canonicity is implied by the byte comparison. -/
theorem verify_stdlib_iff (h : Laws I) (hExp : ExpHyp I) (hsv : ∀ k, k < I.L → ShortVecOK I k)
    (f : Dom) (ctx pk msg sig : Bytes) :
    verify I ⟨true, true, true, false, true⟩ f ctx pk msg sig = true ↔
      sig.size = 64 ∧ leNat (bslice sig 32 32) < I.L ∧ ∃ A : I.G, I.decode pk = some A ∧
        I.encode (leNat (bslice sig 32 32) • I.B - SpecG.challenge I f ctx (bslice sig 0 32) pk msg • A)
          = bslice sig 0 32 := by
  rw [model_verify_iff I h hExp hsv]
  unfold Accepts
  constructor
  · rintro ⟨h1, h2, A, R, hA, -, -, -, -, -, he⟩
    exact ⟨h1, h2, A, hA, by simpa using he⟩
  · rintro ⟨h1, h2, A, hA, he⟩
    refine ⟨h1, h2, A, _, hA, decode_of_encode_eq h he, by simp, by simp, by simp, ?_, by simpa using he⟩
    intro _; rw [← he]; exact h.canonical_encode _

example : VOpts.stdlib = ⟨true, true, true, false, true⟩ := rfl

/-- FIPS 186-5 / RFC 8032 preset `{SmallOrderA, SmallOrderR}` -/
theorem verify_fips_iff (h : Laws I) (hExp : ExpHyp I) (hsv : ∀ k, k < I.L → ShortVecOK I k)
    (f : Dom) (ctx pk msg sig : Bytes) :
    verify I ⟨true, true, false, false, false⟩ f ctx pk msg sig = true ↔
      sig.size = 64 ∧ leNat (bslice sig 32 32) < I.L ∧ ∃ A R : I.G, I.decode pk = some A ∧
        I.decode (bslice sig 0 32) = some R ∧ I.isCanonicalEnc pk = true ∧
        I.isCanonicalEnc (bslice sig 0 32) = true ∧
        (8 : ℕ) • (leNat (bslice sig 32 32) • I.B - SpecG.challenge I f ctx (bslice sig 0 32) pk msg • A - R) = 0 := by
  rw [model_verify_iff I h hExp hsv]
  unfold Accepts
  simp

example : VOpts.fips = ⟨true, true, false, false, false⟩ := rfl

/-- ZIP-215 preset `{SmallOrderA, SmallOrderR, NonCanonicalA, NonCanonicalR}` -/
theorem verify_zip215_iff (h : Laws I) (hExp : ExpHyp I) (hsv : ∀ k, k < I.L → ShortVecOK I k)
    (f : Dom) (ctx pk msg sig : Bytes) :
    verify I ⟨true, true, true, true, false⟩ f ctx pk msg sig = true ↔
      sig.size = 64 ∧ leNat (bslice sig 32 32) < I.L ∧ ∃ A R : I.G, I.decode pk = some A ∧
        I.decode (bslice sig 0 32) = some R ∧
        (8 : ℕ) • (leNat (bslice sig 32 32) • I.B - SpecG.challenge I f ctx (bslice sig 0 32) pk msg • A - R) = 0 := by
  rw [model_verify_iff I h hExp hsv]
  unfold Accepts
  simp

example : VOpts.zip215 = ⟨true, true, true, true, false⟩ := rfl

/-- library default `{SmallOrderR}` -/
theorem verify_default_iff (h : Laws I) (hExp : ExpHyp I) (hsv : ∀ k, k < I.L → ShortVecOK I k)
    (f : Dom) (ctx pk msg sig : Bytes) :
    verify I ⟨false, true, false, false, false⟩ f ctx pk msg sig = true ↔
      sig.size = 64 ∧ leNat (bslice sig 32 32) < I.L ∧ ∃ A R : I.G, I.decode pk = some A ∧
        I.decode (bslice sig 0 32) = some R ∧ (8 : ℕ) • A ≠ 0 ∧ I.isCanonicalEnc pk = true ∧
        I.isCanonicalEnc (bslice sig 0 32) = true ∧
        (8 : ℕ) • (leNat (bslice sig 32 32) • I.B - SpecG.challenge I f ctx (bslice sig 0 32) pk msg • A - R) = 0 := by
  rw [model_verify_iff I h hExp hsv]
  unfold Accepts
  simp

example : VOpts.default = ⟨false, true, false, false, false⟩ := rfl

end Corollaries

section Expanded
variable (I : EdIface)

/-- `NewExpandedPublicKey` caches what `unpackPublicKey` computes from the decoded key -/
theorem newExpandedPublicKey_eq (pk : Bytes) : newExpandedPublicKey I pk =
    (I.decode pk).map fun A => ⟨pk, I.neg A, true, I.isSmallOrder A, I.isCanonicalEnc pk⟩ := by
  unfold newExpandedPublicKey
  cases I.decode pk <;> rfl

/-- `VerifyExpandedWithOptions(NewExpandedPublicKey(pk), …) = VerifyWithOptions(pk, …)` -/
theorem expanded_eq (o : VOpts) (f : Dom) (ctx pk msg sig : Bytes) {xk : ExpandedKey I}
    (hx : newExpandedPublicKey I pk = some xk) :
    verifyExpanded I o f ctx xk msg sig = verify I o f ctx pk msg sig := by
  rw [newExpandedPublicKey_eq, Option.map_eq_some_iff] at hx
  obtain ⟨A, hd, rfl⟩ := hx
  unfold verifyExpanded verify checkExpandedPublicKey unpackPublicKey
  rw [hd]
  -- the same two guards, on the cached flags and on the computed ones
  by_cases h1 : (!o.smallA && I.isSmallOrder A) = true <;>
    by_cases h2 : (!o.nonCanA && !I.isCanonicalEnc pk) = true <;> simp [h1, h2]

theorem expanded_none (o : VOpts) (f : Dom) (ctx pk msg sig : Bytes) (hx : newExpandedPublicKey I pk = none) :
    verify I o f ctx pk msg sig = false := by
  rw [newExpandedPublicKey_eq, Option.map_eq_none_iff] at hx
  simp [verify, unpackPublicKey, hx]

/-- the zero value `ExpandedPublicKey{}` (`isValidY = false`) is rejected -/
theorem expanded_invalid (o : VOpts) (f : Dom) (ctx msg sig : Bytes) (xk : ExpandedKey I) (hv : xk.isValidY = false) :
    verifyExpanded I o f ctx xk msg sig = false := by
  simp [verifyExpanded, checkExpandedPublicKey, hv]

theorem expanded_entry_eq (o : Option VOpts) (hh : HashSel) (ctx pk msg sig : Bytes) (hpk : pk.size = 32)
    {xk : ExpandedKey I} (hx : newExpandedPublicKey I pk = some xk) :
    verifyExpandedWithOptions I o hh ctx pk msg sig = verifyWithOptions I o hh ctx pk msg sig := by
  unfold verifyExpandedWithOptions verifyWithOptions
  rw [hx]
  simp only [hpk, ne_eq, not_true_eq_false, if_false]
  rcases mode o ctx hh msg.size with _ | ⟨f, c, v⟩
  · rfl
  · simp only [expanded_eq I v f c pk msg sig hx]

end Expanded

/-! Non-vacuity: a toy instance satisfying every hypothesis.  `G = ℤ/104` (`= 8·13`, cyclic: a prime-order part
generated by `B = 8` and an 8-torsion part generated by 13), `L = 13`; points are encoded as 32 equal bytes and
decoding reads byte 0 only, so there are non-canonical encodings; the hash is the identity; `shortVec k = (−k, −1)`
takes the negative-sign branch of the triple product for `d0` and for `d1`. -/
namespace Toy

abbrev G := ZMod 104

def enc (P : G) : Bytes := ⟨Array.replicate 32 (UInt8.ofNat P.val)⟩

def dec (b : Bytes) : Option G := if b.size = 32 then some (((b.get! 0).toNat : ℕ) : G) else none

abbrev toy : EdIface where
  G := G
  zero := 0
  add := fun P Q => P + Q
  neg := fun P => -P
  smul := fun n P => n • P
  B := 8
  decode := dec
  encode := enc
  isCanonicalEnc := fun b => match dec b with
    | some P => beq (enc P) b
    | none => false
  isSmallOrder := fun P => decide ((8 : ℕ) • P = 0)
  beqG := fun P Q => decide (P = Q)
  L := 13
  scMinimal := fun b => decide (leNat b < 13)
  hash512 := fun b => b
  shortVec := fun k => (-(k : ℤ), -1)

theorem dec_enc : ∀ P : G, dec (enc P) = some P := by decide +kernel

theorem toy_laws : Laws toy where
  zero_eq := rfl
  add_eq := fun _ _ => rfl
  neg_eq := fun _ => rfl
  smul_eq := fun _ _ => rfl
  L_prime := by show Nat.Prime 13; norm_num
  coprime8 := by decide
  L_lt := by decide
  L_B := by show (13 : ℕ) • (8 : ZMod 104) = 0; decide +kernel
  isSmallOrder_iff := fun _ => decide_eq_true_iff
  decode_encode := dec_enc
  canonical_encode := fun P => by
    show (match dec (enc P) with | some Q => beq (enc Q) (enc P) | none => false) = true
    rw [dec_enc]; exact (Bytes.beq_iff _ _).2 rfl
  encode_size := by decide +kernel
  scMinimal_iff := fun _ _ => decide_eq_true_iff

theorem toy_exp : ExpHyp toy := by
  intro P
  show (8 * 13 : ℕ) • (P : ZMod 104) = 0
  rw [nsmul_eq_mul]
  have : ((8 * 13 : ℕ) : ZMod 104) = 0 := by decide +kernel
  rw [this, zero_mul]

theorem toy_sv : ∀ k, k < toy.L → ShortVecOK toy k := by
  intro k _
  refine ⟨?_, ?_⟩
  · show ((13 : ℕ) : ℤ) ∣ -(k : ℤ) - -1 * k
    simp
  · show ¬ ((13 : ℕ) : ℤ) ∣ -1
    decide

example (o : VOpts) (f : Dom) (ctx pk msg sig : Bytes) :
    verify toy o f ctx pk msg sig = SpecG.verify toy o f ctx pk msg sig :=
  model_eq_spec toy toy_laws toy_exp toy_sv o f ctx pk msg sig

example (o : VOpts) (f : Dom) (ctx pk msg sig : Bytes) :
    verify toy o f ctx pk msg sig = true ↔ Accepts toy o f ctx pk msg sig :=
  model_verify_iff toy toy_laws toy_exp toy_sv o f ctx pk msg sig

/-- `delta_sound` with torsion-laden points: `A' = 1`, `C = 13` are not in the subgroup generated by `B = 8` -/
example (a b : ℕ) :
    (8 : ℕ) • ((-(a : ℤ)) • (1 : G) + ((-1 : ℤ) * (b : ℤ) % ((13 : ℕ) : ℤ)) • (8 : G) - (-1 : ℤ) • (13 : G)) = 0 ↔
    (8 : ℕ) • (a • (1 : G) + b • (8 : G) - 13) = 0 :=
  delta_sound (L := 13) (B := (8 : G)) (by norm_num) (by decide +kernel) toy_exp
    (d0 := -(a : ℤ)) (d1 := -1) (a := a) (b := b) (by simp) (by decide) 1 13

/-! two toy signatures: an honest one, accepted under every flag set; and one whose A and R carry 8-torsion components
(`A = 3•B + 13`, `R = 2•B + 39`), with `S` such that only the cofactored equation holds -/
def pkT : Bytes := enc 24
def sigT : Bytes := enc 16 ++ natLE 3 32
def pkT2 : Bytes := enc (24 + 13)
def sigT2 : Bytes := enc (16 + 39) ++ natLE 3 32

example : SpecG.challenge toy none ByteArray.empty (bslice sigT 0 32) pkT ByteArray.empty = 9 := by decide +kernel
example : ∀ i < 32, verify toy (VOpts.ofBits i) none ByteArray.empty pkT ByteArray.empty sigT = true := by
  decide +kernel
example : ∀ i < 16, verify toy (VOpts.ofBits i) none ByteArray.empty pkT2 ByteArray.empty sigT2 = true := by
  decide +kernel
example : ∀ i < 16, verify toy (VOpts.ofBits (16 + i)) none ByteArray.empty pkT2 ByteArray.empty sigT2 = false := by
  decide +kernel
example : Accepts toy VOpts.zip215 none ByteArray.empty pkT2 ByteArray.empty sigT2 :=
  (model_verify_iff toy toy_laws toy_exp toy_sv _ _ _ _ _ _).1 (by decide +kernel)

/-- `expanded_eq`: its hypothesis is satisfiable -/
example : ∃ xk, newExpandedPublicKey toy pkT = some xk ∧
    ∀ o f ctx msg sig, verifyExpanded toy o f ctx xk msg sig = verify toy o f ctx pkT msg sig := by
  rcases hx : newExpandedPublicKey toy pkT with _ | xk
  · exact absurd hx (by decide +kernel)
  · exact ⟨xk, rfl, fun o f ctx msg sig => expanded_eq toy o f ctx pkT msg sig hx⟩

end Toy

/-- the lattice hypothesis at the 161-step scalar of `LatticeInv` -/
example : ShortVecOK concrete Voi.Props.LatticeInv.kEx := concrete_shortVecOK _ (by decide +kernel)

end Voi.Props.C01

section Axioms
open Voi.Props.C01
#print axioms specG_concrete
#print axioms delta_sound
#print axioms delta_sound_of_coprime
#print axioms concrete_shortVecOK
#print axioms decode_of_encode_eq
#print axioms triple_value
#print axioms split_value
#print axioms triple_isSmallOrder_iff
#print axioms model_eq_spec_at
#print axioms model_eq_spec
#print axioms specG_verify_iff
#print axioms model_verify_iff
#print axioms verify_S_lt_L
#print axioms reject_smallOrder_A
#print axioms reject_smallOrder_R
#print axioms reject_nonCanonical_A
#print axioms reject_nonCanonical_R
#print axioms verify_stdlib_iff
#print axioms verify_fips_iff
#print axioms verify_zip215_iff
#print axioms verify_default_iff
#print axioms expanded_eq
#print axioms expanded_none
#print axioms expanded_entry_eq
#print axioms Toy.toy_laws
end Axioms

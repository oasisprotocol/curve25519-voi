/-
The order of edwards25519(F_p) is exactly `8·L`, without point counting, by a squeeze (`card_eq_of_coprime_orders`):
  * the base point has order exactly `L` (`SpecBridge.addOrderOf_B`) and the library's torsion generator `T1` order
    exactly `8` (`8•T1 = 0`, `4•T1 ≠ 0`, evaluated on the executable Spec by the kernel and transported through the
    bridge); `gcd(8, L) = 1`; so by Lagrange `8·L ∣ #E`;
  * the canonical encoding injects the curve points into the 32-byte strings (`C10.encode_injective`), so `#E ≤ 2^256`;
  * `2^256 < 16·L`, because `L > 2^252`.
Hence `0 < #E`, `8L ∣ #E`, `#E < 2·8L`, so `#E = 8L` (`card_Ed25519`), and every point is killed by `8L`
(`exp_Ed25519`), which is the hypothesis `ExpHyp` of C01.
-/
import Voi.Proofs.SpecBridge
import Voi.Props.C10

namespace Voi.Proofs
open Voi Voi.Spec

def T1pt : Ed25519 := toEd Pt.T1 T1_onCurve

theorem eight_smul_T1 : 8 • T1pt = 0 :=
  (isSmallOrder_iff T1_onCurve).mp (by decide +kernel)

theorem four_smul_T1_ne : 4 • T1pt ≠ 0 := by
  intro h
  have := ((PtIs.of_toEd Pt.T1 T1_onCurve).smul 4).isZero_iff.mpr h
  exact absurd this (by decide +kernel)

theorem addOrderOf_T1 : addOrderOf T1pt = 8 := by
  have : Fact (Nat.Prime 2) := ⟨Nat.prime_two⟩
  have := addOrderOf_eq_prime_pow (p := 2) (n := 2) (x := T1pt)
    (by norm_num; exact four_smul_T1_ne) (by norm_num; exact eight_smul_T1)
  simpa using this

def encNat (P : CurvePt) : Fin (256 ^ 32) :=
  ⟨leNat (Pt.encode P.1), Voi.Props.Bytes.leNat_lt_of_size (Voi.Props.C10.encode_size P.1)⟩

theorem encNat_injective : Function.Injective encNat := by
  intro P Q h
  have h1 : leNat (Pt.encode P.1) = leNat (Pt.encode Q.1) := congrArg Fin.val h
  have h2 : Pt.encode P.1 = Pt.encode Q.1 :=
    Voi.Props.Bytes.leNat_inj (by rw [Voi.Props.C10.encode_size, Voi.Props.C10.encode_size]) h1
  exact Subtype.ext (Voi.Props.C10.encode_injective P.2 Q.2 h2)

instance : Finite CurvePt := Finite.of_injective encNat encNat_injective
instance : Finite Ed25519 := Finite.of_equiv CurvePt toEdEquiv

theorem card_CurvePt_le : Nat.card CurvePt ≤ 256 ^ 32 := by
  have := Nat.card_le_card_of_injective encNat encNat_injective
  rwa [Nat.card_fin] at this

theorem card_eq_CurvePt : Nat.card Ed25519 = Nat.card CurvePt := (Nat.card_congr toEdEquiv).symm

theorem card_eq_of_coprime_orders {G : Type} [AddGroup G] [Finite G] (x y : G)
    (hcop : (addOrderOf x).Coprime (addOrderOf y)) (hlt : Nat.card G < 2 * (addOrderOf x * addOrderOf y)) :
    Nat.card G = addOrderOf x * addOrderOf y :=
  Nat.eq_of_dvd_of_lt_two_mul Nat.card_pos.ne'
    (hcop.mul_dvd_of_dvd_of_dvd (addOrderOf_dvd_natCard x) (addOrderOf_dvd_natCard y)) hlt

theorem card_Ed25519 : Nat.card Ed25519 = 8 * L := by
  have h := card_eq_of_coprime_orders T1pt Bpt
  rw [addOrderOf_T1, addOrderOf_B] at h
  exact h (by decide) (lt_of_le_of_lt (card_eq_CurvePt ▸ card_CurvePt_le) (by decide))

theorem card_CurvePt : Nat.card CurvePt = 8 * L := card_eq_CurvePt ▸ card_Ed25519

theorem exp_Ed25519 (A : Ed25519) : (8 * L) • A = 0 := by
  rw [← card_Ed25519]; exact card_nsmul_eq_zero'

theorem L_smul_eight_smul (A : Ed25519) : L • (8 • A) = 0 := by
  rw [smul_smul, Nat.mul_comm]; exact exp_Ed25519 A

example : (8 * L) • T1pt = 0 := exp_Ed25519 _
example : (8 * L) • (Bpt + T1pt) = 0 := exp_Ed25519 _

end Voi.Proofs

#print axioms Voi.Proofs.addOrderOf_T1
#print axioms Voi.Proofs.encNat_injective
#print axioms Voi.Proofs.card_Ed25519
#print axioms Voi.Proofs.exp_Ed25519

/-
C04, square-root-ratio clause: the contract of the Spec function `Fp.sqrtRatioM1 u v : Bool × Nat` (RFC 9496 §4.2
SQRT_RATIO_M1; stream F2 compares the Go routine `field.SqrtRatioI` with it on every run, Props/FL/Sqrt proves the
regenerated routine equal to it) for all naturals `u v` (the function reduces mod p): `sqrtRatioM1_contract`, and the
returned root is the unique non-negative reduced one (`sqrtRatioM1_unique`, `sqrtRatioM1_eq_of_sq`).
Before that, what the field dictionary `Props/C07/FpRing` cannot say without the primality of p: `Fp.inv` is the
inverse, the fourth roots of unity, non-squares.
-/
import Mathlib.FieldTheory.Finite.Basic
import Voi.Props.C07.FpRing
import Voi.Proofs.Primes
namespace Voi.Props.C07
open Voi.Spec

@[fp] theorem toZ_inv' (a : Nat) : toZ (Fp.inv a) = (toZ a)⁻¹ := by
  rw [toZ_inv]
  by_cases h : toZ a = 0
  · rw [h, inv_zero]; exact zero_pow (by decide)
  · apply eq_inv_of_mul_eq_one_left
    rw [← pow_succ, show p - 2 + 1 = p - 1 by decide, ZMod.pow_card_sub_one_eq_one h]

end Voi.Props.C07

namespace Voi.Proofs.SqrtRatio
open Voi Voi.Spec
open Voi.Props.C07 hiding toZ
/-- Mathlib has a root-level `toZ` (order theory) -/
local notation "toZ" => Voi.Props.C07.toZ

theorem p_mod8 : p % 8 = 5 := by decide +kernel
theorem exp_rel : 2 * ((p - 5) / 8) + 1 = (p - 1) / 4 := by decide +kernel
theorem four_mul_exp : 4 * ((p - 1) / 4) = p - 1 := by decide +kernel

theorem sqrtM1_val : Fp.sqrtM1 =
    19681161376707505956807079304988542015446066515923890162744021073123829784752 := by
  decide +kernel
theorem d_val : Fp.d = 37095705934669439343138083508754565189542113879843219016388785533085940283555 := by
  decide +kernel
theorem sqrtM1_lt : Fp.sqrtM1 < p := by decide +kernel
theorem sqrtM1_nonneg : Fp.isNeg Fp.sqrtM1 = false := by decide +kernel
theorem sqrtM1_sq_nat : Fp.sqrtM1 * Fp.sqrtM1 % p = p - 1 := by decide +kernel

theorem toZ_eq_cast (a : Nat) : toZ a = (a : ZMod p) := rfl

noncomputable def I : ZMod p := toZ Fp.sqrtM1

theorem I_sq : I ^ 2 = -1 := by
  have h : toZ (Fp.mul Fp.sqrtM1 Fp.sqrtM1) = toZ (p - 1) := congrArg _ sqrtM1_sq_nat
  rwa [toZ_mul, toZ_p_sub_one, ← pow_two] at h

theorem two_ne_zero' : (2 : ZMod p) ≠ 0 := ofNat_ne_zero 2 (by decide)

theorem one_ne_neg_one : (1 : ZMod p) ≠ -1 := fun h => two_ne_zero' (by linear_combination h)

theorem I_ne_zero : I ≠ 0 := fun h => one_ne_zero (by linear_combination I_sq - I * h)

theorem I_ne_one : I ≠ 1 := fun h => one_ne_neg_one (by linear_combination I_sq - (I + 1) * h)

theorem I_ne_neg_one : I ≠ -1 := fun h => one_ne_neg_one (by linear_combination I_sq - (I - 1) * h)

theorem I_ne_neg_I : I ≠ -I := fun h =>
  I_ne_zero ((mul_eq_zero.1 (by linear_combination h : (2 : ZMod p) * I = 0)).resolve_left two_ne_zero')

/-- the quartic character `x^((p−1)/4)` is a fourth root of unity -/
theorem pow_quarter_cases {x t : ZMod p} (hx : x ≠ 0) (ht : x ^ ((p - 1) / 4) = t) :
    t = 1 ∨ t = -1 ∨ t = I ∨ t = -I := by
  have h : t ^ 4 = 1 := by
    rw [← ht, ← pow_mul, Nat.mul_comm, four_mul_exp]; exact ZMod.pow_card_sub_one_eq_one hx
  have hf : (t - 1) * ((t + 1) * ((t - I) * (t + I))) = 0 := by
    linear_combination h + (t ^ 2 - 1) * (-1 : ZMod p) * I_sq
  simpa only [mul_eq_zero, sub_eq_zero, add_eq_zero_iff_eq_neg] using hf

/-- Both SQRT_RATIO_M1 formulas (RFC 9496's and that of internal/field) pick their root in the same way: a candidate `r`
with `v r² = u T`, `T` a fourth root of unity, is multiplied by `i` when `T ∈ {−1, −i}`; the result is a root of `u/v` when
`T = ±1` and of `i u/v` otherwise. -/
theorem root_of_candidate {u v r T : ZMod p} (hT : T = 1 ∨ T = -1 ∨ T = I ∨ T = -I) (hc : v * r ^ 2 = u * T) :
    v * (if T = -1 ∨ T = -I then r * I else r) ^ 2 = (if T = 1 ∨ T = -1 then 1 else I) * u := by
  have hI := I_sq
  rcases hT with rfl | rfl | rfl | rfl
  · rw [if_neg (not_or.2 ⟨one_ne_neg_one, fun h => I_ne_neg_one (neg_eq_iff_eq_neg.1 h.symm)⟩), if_pos (Or.inl rfl)]
    linear_combination hc
  · rw [if_pos (Or.inl rfl), if_pos (Or.inr rfl)]
    linear_combination (I * I) * hc - u * hI
  · rw [if_neg (not_or.2 ⟨I_ne_neg_one, I_ne_neg_I⟩), if_neg (not_or.2 ⟨I_ne_one, I_ne_neg_one⟩)]
    linear_combination hc
  · rw [if_pos (Or.inr rfl),
      if_neg (not_or.2 ⟨fun h => I_ne_neg_one (neg_eq_iff_eq_neg.1 h), fun h => I_ne_one (neg_injective h)⟩)]
    linear_combination (I * I) * hc - (u * I) * hI

/-- the easy half of Euler's criterion: a square gives `c^(p−1)`, which is 0 or 1 -/
theorem not_isSquare_of_pow_half_eq {x : ZMod p} (h : x ^ (p / 2) = -1) : ¬ IsSquare x := by
  rintro ⟨c, rfl⟩
  rw [← pow_two, ← pow_mul, show 2 * (p / 2) = p - 1 by decide] at h
  by_cases hc : c = 0
  · rw [hc, zero_pow (by decide)] at h; exact one_ne_zero (neg_eq_zero.1 h.symm)
  · exact one_ne_neg_one ((ZMod.pow_card_sub_one_eq_one hc).symm.trans h)

/-- with the power computed by the kernel on the executable field -/
theorem not_isSquare_of_pow_half {a : Nat} (h : Fp.pow a (p / 2) = p - 1) : ¬ IsSquare (toZ a) :=
  not_isSquare_of_pow_half_eq (by rw [← toZ_pow _ _ (by decide), h, toZ_p_sub_one])

/-- `i^((p−1)/2) = (−1)^((p−1)/4)` and `(p−1)/4` is odd (p ≡ 5 mod 8) -/
theorem I_not_square : ¬ IsSquare I :=
  not_isSquare_of_pow_half_eq (by
    rw [show p / 2 = 2 * ((p - 1) / 4) by decide, pow_mul, I_sq, Odd.neg_one_pow ⟨_, exp_rel.symm⟩])

/-- else `c = (b/a)²` -/
theorem eq_zero_of_mul_sq_eq_sq {c a b : ZMod p} (hc : ¬ IsSquare c) (h : c * a ^ 2 = b ^ 2) : a = 0 := by
  by_contra ha
  exact hc ⟨b / a, by rw [div_mul_div_comm, eq_div_iff (mul_ne_zero ha ha)]; linear_combination h⟩

/-- −1 is a square, so −1/c is none -/
theorem mul_sq_add_one_ne_zero {c : ZMod p} (hc : ¬ IsSquare c) (y : ZMod p) : c * y ^ 2 + 1 ≠ 0 := by
  intro h
  have hy := eq_zero_of_mul_sq_eq_sq (a := y) (b := I) hc (by rw [I_sq]; linear_combination h)
  rw [hy] at h
  exact one_ne_zero (by linear_combination h)

/-- `u / v` and `i u / v` are not both squares, unless `u = 0` -/
theorem eq_zero_of_sq_and_I_sq {u v a b : ZMod p} (hv : v ≠ 0) (ha : v * a ^ 2 = u) (hb : v * b ^ 2 = I * u) : u = 0 := by
  have ha0 : a = 0 :=
    eq_zero_of_mul_sq_eq_sq I_not_square (mul_left_cancel₀ hv (by rw [hb, ← ha]; ring) : I * a ^ 2 = b ^ 2)
  rw [← ha, ha0]; ring

theorem abs_of_nonneg {a : Nat} (ha : a < p) (hn : Fp.isNeg a = false) : Fp.abs a = a := by
  unfold Fp.abs; rw [hn]; simp [Nat.mod_eq_of_lt ha]

theorem nonneg_root_unique {a b : Nat} (ha : a < p) (hb : b < p)
    (na : Fp.isNeg a = false) (nb : Fp.isNeg b = false) (h : toZ a ^ 2 = toZ b ^ 2) : a = b := by
  rcases sq_eq_sq_iff_eq_or_eq_neg.1 h with h1 | h1
  · exact toZ_inj ha hb h1
  · -- a = -b: both are 0, or their signs differ
    have h3 : a = Fp.neg b := toZ_inj ha (neg_lt b) (by rw [toZ_neg, h1])
    by_cases hb0 : b % p = 0
    · rw [Nat.mod_eq_of_lt hb] at hb0; rw [h3, hb0]; rfl
    · rw [h3, isNeg_neg hb0, nb] at na; exact Bool.noConfusion na

/-- `r0 = u v³ (u v⁷)^((p−5)/8)` as computed by the Spec -/
def r0 (u v : Nat) : Nat :=
  Fp.mul (Fp.mul u (Fp.mul (Fp.sq v) v))
    (Fp.pow (Fp.mul u (Fp.mul (Fp.sq (Fp.mul (Fp.sq v) v)) v)) ((p - 5) / 8))

def check (u v : Nat) : Nat := Fp.mul v (Fp.sq (r0 u v))

theorem sqrtRatioM1_unfold (u v : Nat) :
    Fp.sqrtRatioM1 u v =
      ((check u v == u % p) || (check u v == Fp.neg (u % p)),
       Fp.abs (if (check u v == Fp.neg (u % p)) ||
                  (check u v == Fp.mul (Fp.neg (u % p)) Fp.sqrtM1)
               then Fp.mul (r0 u v) Fp.sqrtM1 else r0 u v)) := rfl

theorem r0_lt (u v : Nat) : r0 u v < p := mul_lt _ _
theorem check_lt (u v : Nat) : check u v < p := mul_lt _ _

theorem toZ_r0 (u v : Nat) :
    toZ (r0 u v) = toZ u * toZ v ^ 3 * (toZ u * toZ v ^ 7) ^ ((p - 5) / 8) := by
  unfold r0
  rw [toZ_mul, toZ_mul, toZ_mul, toZ_sq, toZ_pow _ _ (by decide +kernel), toZ_mul, toZ_mul, toZ_sq,
    toZ_mul, toZ_sq]
  generalize (p - 5) / 8 = k
  ring

theorem toZ_check (u v : Nat) :
    toZ (check u v) = toZ u * (toZ u * toZ v ^ 7) ^ ((p - 1) / 4) := by
  unfold check
  rw [toZ_mul, toZ_sq, toZ_r0, ← exp_rel]
  generalize (p - 5) / 8 = k
  ring

theorem toZ_check' (u v : Nat) : toZ (check u v) = toZ v * toZ (r0 u v) ^ 2 := by
  unfold check
  rw [toZ_mul, toZ_sq]; ring

/-- a test `check == x` against a reduced `x ≡ u c` asks whether the character is `c` -/
theorem test_iff {u v x : Nat} {t c : ZMod p} (hu : toZ u ≠ 0) (ht : toZ (check u v) = toZ u * t)
    (hx : x < p) (hc : toZ x = toZ u * c) : (check u v == x) = decide (t = c) := by
  rw [Bool.eq_iff_iff, decide_eq_true_eq, beq_iff_toZ (check_lt u v) hx, ht, hc, mul_right_inj' hu]

theorem sqrtRatioM1_char {u v : Nat} {t : ZMod p} (hu : toZ u ≠ 0) (ht : toZ (check u v) = toZ u * t) :
    Fp.sqrtRatioM1 u v = (decide (t = 1 ∨ t = -1),
      Fp.abs (if t = -1 ∨ t = -I then Fp.mul (r0 u v) Fp.sqrtM1 else r0 u v)) := by
  have correct : toZ (u % p) = toZ u * 1 := by rw [toZ_mod, mul_one]
  have flipped : toZ (Fp.neg (u % p)) = toZ u * -1 := by rw [toZ_neg, toZ_mod, mul_neg_one]
  have flippedI : toZ (Fp.mul (Fp.neg (u % p)) Fp.sqrtM1) = toZ u * -I := by
    rw [toZ_mul, toZ_neg, toZ_mod, neg_mul, mul_neg]; rfl
  rw [sqrtRatioM1_unfold, test_iff hu ht (mod_lt u) correct, test_iff hu ht (neg_lt _) flipped,
    test_iff hu ht (mul_lt _ _) flippedI, ← Bool.decide_or, ← Bool.decide_or]
  simp only [decide_eq_true_eq]

theorem sqrtRatioM1_lt (u v : Nat) : (Fp.sqrtRatioM1 u v).2 < p := by
  rw [sqrtRatioM1_unfold]; simp only []; exact abs_lt _

theorem sqrtRatioM1_nonneg (u v : Nat) : Fp.isNeg (Fp.sqrtRatioM1 u v).2 = false := by
  rw [sqrtRatioM1_unfold]; simp only []; exact abs_nonneg _

theorem sqrtRatioM1_congr {u u' v v' : Nat} (hu : toZ u = toZ u') (hv : toZ v = toZ v') :
    Fp.sqrtRatioM1 u v = Fp.sqrtRatioM1 u' v' := by
  have hr : r0 u v = r0 u' v' := toZ_inj (r0_lt _ _) (r0_lt _ _) (by rw [toZ_r0, toZ_r0, hu, hv])
  have hc : check u v = check u' v' :=
    toZ_inj (check_lt _ _) (check_lt _ _) (by rw [toZ_check', toZ_check', hr, hv])
  rw [sqrtRatioM1_unfold, sqrtRatioM1_unfold, hr, hc, toZ_eq_iff.1 hu]

theorem sqrtRatioM1_mod (u v : Nat) : Fp.sqrtRatioM1 (u % p) (v % p) = Fp.sqrtRatioM1 u v :=
  sqrtRatioM1_congr (toZ_mod u) (toZ_mod v)

theorem sqrtRatioM1_u_zero {u : Nat} (v : Nat) (hu : toZ u = 0) :
    Fp.sqrtRatioM1 u v = (true, 0) := by
  have hr : r0 u v = 0 := eq_zero_of_toZ (r0_lt u v) (by rw [toZ_r0, hu]; ring)
  have hc : check u v = 0 := eq_zero_of_toZ (check_lt u v) (by rw [toZ_check', hr, toZ_zero]; ring)
  have hu' : u % p = 0 := toZ_eq_zero_iff.1 hu
  rw [sqrtRatioM1_unfold, hr, hc, hu']
  decide +kernel

theorem sqrtRatioM1_v_zero {u v : Nat} (hu : toZ u ≠ 0) (hv : toZ v = 0) :
    Fp.sqrtRatioM1 u v = (false, 0) := by
  have hr : r0 u v = 0 := eq_zero_of_toZ (r0_lt u v) (by rw [toZ_r0, hv]; ring)
  have ht : toZ (check u v) = toZ u * 0 := by rw [toZ_check', hv]; ring
  rw [sqrtRatioM1_char hu ht, hr]
  simp [I_ne_zero]
  decide +kernel

theorem sqrtRatioM1_sq {u v : Nat} (hu : toZ u ≠ 0) (hv : toZ v ≠ 0) :
    toZ v * toZ (Fp.sqrtRatioM1 u v).2 ^ 2 = (if (Fp.sqrtRatioM1 u v).1 then 1 else I) * toZ u := by
  -- the tested value `v r0²` is `u` times the quartic character of `u v⁷`
  have ht := toZ_check u v
  rw [sqrtRatioM1_char hu ht]
  simp only [toZ_abs_sq, apply_ite toZ, toZ_mul, decide_eq_true_eq]
  exact root_of_candidate (pow_quarter_cases (mul_ne_zero hu (pow_ne_zero 7 hv)) rfl) ((toZ_check' u v).symm.trans ht)

theorem sqrtRatioM1_ok {u v : Nat} (hok : (Fp.sqrtRatioM1 u v).1 = true) :
    toZ v * toZ (Fp.sqrtRatioM1 u v).2 ^ 2 = toZ u := by
  by_cases hu : toZ u = 0
  · rw [sqrtRatioM1_u_zero v hu, hu, toZ_zero]; ring
  · by_cases hv : toZ v = 0
    · rw [sqrtRatioM1_v_zero hu hv] at hok; cases hok
    · rw [sqrtRatioM1_sq hu hv, hok, if_pos rfl, one_mul]

theorem sqrtRatioM1_not_ok {u v : Nat} (hv : toZ v ≠ 0) (hok : (Fp.sqrtRatioM1 u v).1 = false) :
    toZ v * toZ (Fp.sqrtRatioM1 u v).2 ^ 2 = toZ Fp.sqrtM1 * toZ u := by
  have hu : toZ u ≠ 0 := fun hu => by rw [sqrtRatioM1_u_zero v hu] at hok; cases hok
  rw [sqrtRatioM1_sq hu hv, hok]; rfl

theorem sqrtRatioM1_ok_iff {u v : Nat} (hv : toZ v ≠ 0) :
    (Fp.sqrtRatioM1 u v).1 = true ↔ IsSquare (toZ u / toZ v) := by
  constructor
  · intro hok
    exact ⟨toZ (Fp.sqrtRatioM1 u v).2, by rw [div_eq_iff hv, ← sqrtRatioM1_ok hok]; ring⟩
  · rintro ⟨s, hs⟩
    by_contra hok
    rw [Bool.not_eq_true] at hok
    rw [div_eq_iff hv] at hs
    have hu := eq_zero_of_sq_and_I_sq (a := s) hv (by rw [hs]; ring) (sqrtRatioM1_not_ok hv hok)
    rw [sqrtRatioM1_u_zero v hu] at hok; cases hok

/-- C04: the contract of SQRT_RATIO_M1 (RFC 9496 §4.2), all cases -/
theorem sqrtRatioM1_contract (u v : Nat) :
    (Fp.sqrtRatioM1 u v).2 < p ∧ Fp.isNeg (Fp.sqrtRatioM1 u v).2 = false ∧
    (toZ u = 0 → Fp.sqrtRatioM1 u v = (true, 0)) ∧
    (toZ u ≠ 0 → toZ v = 0 → Fp.sqrtRatioM1 u v = (false, 0)) ∧
    (toZ u ≠ 0 → toZ v ≠ 0 →
      ((Fp.sqrtRatioM1 u v).1 = true ↔ IsSquare (toZ u / toZ v)) ∧
      ((Fp.sqrtRatioM1 u v).1 = true → toZ v * toZ (Fp.sqrtRatioM1 u v).2 ^ 2 = toZ u) ∧
      ((Fp.sqrtRatioM1 u v).1 = false →
        toZ v * toZ (Fp.sqrtRatioM1 u v).2 ^ 2 = toZ Fp.sqrtM1 * toZ u)) :=
  ⟨sqrtRatioM1_lt u v, sqrtRatioM1_nonneg u v, sqrtRatioM1_u_zero v,
   fun hu hv => sqrtRatioM1_v_zero hu hv,
   fun _ hv => ⟨sqrtRatioM1_ok_iff hv, sqrtRatioM1_ok, sqrtRatioM1_not_ok hv⟩⟩

theorem sqrtRatioM1_flag (u v : Nat) :
    (Fp.sqrtRatioM1 u v).1 = true ↔ toZ u = 0 ∨ (toZ v ≠ 0 ∧ IsSquare (toZ u / toZ v)) := by
  by_cases hv : toZ v = 0
  · by_cases hu : toZ u = 0
    · rw [sqrtRatioM1_u_zero v hu]; simp [hu]
    · rw [sqrtRatioM1_v_zero hu hv]; simp [hu, hv]
  · rw [sqrtRatioM1_ok_iff hv]
    exact ⟨fun h => .inr ⟨hv, h⟩, fun h => h.elim (fun hu => by rw [hu, zero_div]; exact IsSquare.zero) And.right⟩

/-- uniqueness, both branches: a reduced non-negative `x` with `v x² = u` (`b = true`) or `v x² = i u` (`b = false`) is the
returned root, and `b` the returned flag -/
theorem sqrtRatioM1_eq_of_sq {u v x : Nat} {b : Bool} (hu : toZ u ≠ 0) (hv : toZ v ≠ 0) (hx : x < p)
    (hn : Fp.isNeg x = false) (h : toZ v * toZ x ^ 2 = (if b then 1 else I) * toZ u) :
    Fp.sqrtRatioM1 u v = (b, x) := by
  have hr := sqrtRatioM1_sq hu hv
  have hflag : (Fp.sqrtRatioM1 u v).1 = b := by
    by_contra hne
    cases b
    · rw [Bool.not_eq_false] at hne
      rw [hne, if_pos rfl, one_mul] at hr
      exact hu (eq_zero_of_sq_and_I_sq hv hr h)
    · rw [Bool.not_eq_true] at hne
      rw [if_pos rfl, one_mul] at h
      rw [hne] at hr
      exact hu (eq_zero_of_sq_and_I_sq hv h hr)
  rw [hflag] at hr
  exact Prod.ext hflag (nonneg_root_unique (sqrtRatioM1_lt u v) hx (sqrtRatioM1_nonneg u v) hn
    (mul_left_cancel₀ hv (hr.trans h.symm)))

theorem sqrtRatioM1_unique {u v x : Nat} (hv : toZ v ≠ 0) (hx : x < p)
    (hn : Fp.isNeg x = false) (h : toZ v * toZ x ^ 2 = toZ u) :
    Fp.sqrtRatioM1 u v = (true, x) := by
  by_cases hu : toZ u = 0
  · rw [hu, mul_eq_zero, or_iff_right hv, sq_eq_zero_iff] at h
    rw [sqrtRatioM1_u_zero v hu, eq_zero_of_toZ hx h]
  · exact sqrtRatioM1_eq_of_sq hu hv hx hn (by rw [h, if_pos rfl, one_mul])

example : Fp.sqrtRatioM1 0 5 = (true, 0) := by decide +kernel
example : Fp.sqrtRatioM1 p 0 = (true, 0) := by decide +kernel
example : Fp.sqrtRatioM1 7 0 = (false, 0) := by decide +kernel
example : Fp.sqrtRatioM1 4 1 = (true, 2) := by decide +kernel
example : Fp.sqrtRatioM1 (4 + p) (1 + 2 * p) = (true, 2) := by decide +kernel
-- 2 is a non-residue (p ≡ 5 mod 8)
example : (Fp.sqrtRatioM1 2 1).1 = false ∧
    Fp.mul 1 (Fp.sq (Fp.sqrtRatioM1 2 1).2) = Fp.mul Fp.sqrtM1 2 := by decide +kernel
example : Fp.sq Fp.sqrtM1 = Fp.neg 1 ∧ Fp.isNeg Fp.sqrtM1 = false := by decide +kernel

#print axioms sqrtRatioM1_contract
#print axioms sqrtRatioM1_flag
#print axioms sqrtRatioM1_unique
#print axioms sqrtRatioM1_mod
#print axioms I_not_square

end Voi.Proofs.SqrtRatio

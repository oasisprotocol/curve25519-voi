/-
The twisted Edwards curve -x² + y² = 1 + d x² y² over a field `K` in which -1 = i² is a square, `d` is a non-square and
2 ≠ 0 (`EdCurve K`).  Its affine points with the unified addition law (that of `Voi.Spec.Pt.add`) form an `AddCommGroup`:
* completeness (`denoms_ne_zero`): for curve points the denominators 1 ± d x₁x₂y₁y₂ never vanish;
* closure and the x-coordinate of associativity by the polynomial certificates of `Voi.Proofs.EdwardsCerts`;
* the y-coordinate of associativity from the x-coordinate: translation by the point (i, 0) of order 4 (`rot`) commutes
  with addition and swaps the coordinates.
-/
import Mathlib.Tactic.FieldSimp
import Mathlib.Tactic.Ring
import Voi.Proofs.EdwardsCerts
namespace Voi.Proofs

/-- parameters of an a = -1 twisted Edwards curve with a complete addition law -/
structure EdCurve (K : Type*) [Field K] where
  d : K
  i : K
  i_sq : i ^ 2 = -1
  d_nonsq : ¬ IsSquare d
  two_ne : (2 : K) ≠ 0

variable {K : Type*} [Field K]

/-- completeness: for curve points `d x₁x₂y₁y₂` is never ±1 -/
theorem ed_prod_ne (d i x1 y1 x2 y2 : K) (hi : i ^ 2 = -1) (hd : ¬ IsSquare d) (h2ne : (2 : K) ≠ 0)
    (h1 : -x1 ^ 2 + y1 ^ 2 = 1 + d * x1 ^ 2 * y1 ^ 2) (h2 : -x2 ^ 2 + y2 ^ 2 = 1 + d * x2 ^ 2 * y2 ^ 2)
    (ε : K) (hε : ε ^ 2 = 1) : d * x1 * x2 * y1 * y2 ≠ ε := by
  intro he
  have hε0 : ε ≠ 0 := by
    intro h; rw [h] at hε; norm_num at hε
  have hx1 : x1 ≠ 0 := by
    rintro rfl; apply hε0; rw [← he]; ring
  have hy1 : y1 ≠ 0 := by
    rintro rfl; apply hε0; rw [← he]; ring
  -- with `d x₁x₂y₁y₂ = ε` the two curve equations give, for either sign `s`, `(i x₁ + s ε y₁)² = d x₁²y₁² (i x₂ + s y₂)²`;
  -- so `d` is a square as soon as one of `i x₂ ± y₂` is non-zero, and if both vanish then `y₂ = 0`, hence `ε = 0`
  have key (s : K) (hs : s ^ 2 = 1) :
      (i * x1 + s * ε * y1) ^ 2 = d * x1 ^ 2 * y1 ^ 2 * (i * x2 + s * y2) ^ 2 := by
    linear_combination (x1^2 - d*x1^2*y1^2*x2^2) * hi + (ε^2*y1^2 - d*x1^2*y1^2*y2^2) * hs
      + (y1^2 - 1) * hε + (-(2*i*s*x1*y1) - (d*x1*x2*y1*y2 + ε)) * he + h1 - (d*x1^2*y1^2) * h2
  by_cases hp : i * x2 + y2 = 0
  · by_cases hm : i * x2 - y2 = 0
    · have hy2 : y2 = 0 := by
        have : (2:K) * y2 = 0 := by linear_combination hp - hm
        exact (mul_eq_zero.mp this).resolve_left h2ne
      apply hε0; rw [← he, hy2]; ring
    · apply hd
      have hk := key (-1) (by ring)
      refine ⟨(i * x1 - ε * y1) / (x1 * y1 * (i * x2 - y2)), ?_⟩
      field_simp
      linear_combination (-1 : K) * hk
  · apply hd
    have hk := key 1 (by ring)
    refine ⟨(i * x1 + ε * y1) / (x1 * y1 * (i * x2 + y2)), ?_⟩
    field_simp
    linear_combination (-1 : K) * hk

@[ext] structure EdPoint (c : EdCurve K) where
  x : K
  y : K
  on : -x ^ 2 + y ^ 2 = 1 + c.d * x ^ 2 * y ^ 2

namespace EdPoint
variable {c : EdCurve K}

/-- completeness: the denominators of the addition law are non-zero for any two curve points (P = ±Q, small order, …) -/
theorem denoms_ne_zero (P Q : EdPoint c) :
    1 + c.d * P.x * Q.x * P.y * Q.y ≠ 0 ∧ 1 - c.d * P.x * Q.x * P.y * Q.y ≠ 0 := by
  constructor
  · intro h
    exact ed_prod_ne c.d c.i P.x P.y Q.x Q.y c.i_sq c.d_nonsq c.two_ne P.on Q.on (-1) (by ring)
      (by linear_combination h)
  · intro h
    exact ed_prod_ne c.d c.i P.x P.y Q.x Q.y c.i_sq c.d_nonsq c.two_ne P.on Q.on 1 (by ring)
      (by linear_combination -h)

theorem denom_add_ne_zero (P Q : EdPoint c) : 1 + c.d * P.x * Q.x * P.y * Q.y ≠ 0 :=
  (denoms_ne_zero P Q).1
theorem denom_sub_ne_zero (P Q : EdPoint c) : 1 - c.d * P.x * Q.x * P.y * Q.y ≠ 0 :=
  (denoms_ne_zero P Q).2

/-- on abstract atoms, which keep `field_simp` cheap -/
private theorem on_div {d nx ny a b : K} (ha : a ≠ 0) (hb : b ≠ 0)
    (h : -nx ^ 2 * b ^ 2 + ny ^ 2 * a ^ 2 = a ^ 2 * b ^ 2 + d * nx ^ 2 * ny ^ 2) :
    -(nx / a) ^ 2 + (ny / b) ^ 2 = 1 + d * (nx / a) ^ 2 * (ny / b) ^ 2 := by
  field_simp
  linear_combination h

/-- closure: the sum of two curve points satisfies the curve equation -/
theorem closure (P Q : EdPoint c) :
    -((P.x * Q.y + P.y * Q.x) / (1 + c.d * P.x * Q.x * P.y * Q.y)) ^ 2
      + ((P.y * Q.y + P.x * Q.x) / (1 - c.d * P.x * Q.x * P.y * Q.y)) ^ 2
    = 1 + c.d * ((P.x * Q.y + P.y * Q.x) / (1 + c.d * P.x * Q.x * P.y * Q.y)) ^ 2
        * ((P.y * Q.y + P.x * Q.x) / (1 - c.d * P.x * Q.x * P.y * Q.y)) ^ 2 :=
  on_div (denom_add_ne_zero P Q) (denom_sub_ne_zero P Q)
    (EdCert.closure_num c.d P.x P.y Q.x Q.y P.on Q.on)

def zero : EdPoint c := ⟨0, 1, by ring⟩

def neg (P : EdPoint c) : EdPoint c := ⟨-P.x, P.y, by linear_combination P.on⟩

def add (P Q : EdPoint c) : EdPoint c :=
  ⟨(P.x * Q.y + P.y * Q.x) / (1 + c.d * P.x * Q.x * P.y * Q.y),
   (P.y * Q.y + P.x * Q.x) / (1 - c.d * P.x * Q.x * P.y * Q.y), closure P Q⟩

instance : Zero (EdPoint c) := ⟨zero⟩
instance : Neg (EdPoint c) := ⟨neg⟩
instance : Add (EdPoint c) := ⟨add⟩

@[simp] theorem zero_x : (0 : EdPoint c).x = 0 := rfl
@[simp] theorem zero_y : (0 : EdPoint c).y = 1 := rfl
@[simp] theorem neg_x (P : EdPoint c) : (-P).x = -P.x := rfl
@[simp] theorem neg_y (P : EdPoint c) : (-P).y = P.y := rfl
theorem add_x (P Q : EdPoint c) :
    (P + Q).x = (P.x * Q.y + P.y * Q.x) / (1 + c.d * P.x * Q.x * P.y * Q.y) := rfl
theorem add_y (P Q : EdPoint c) :
    (P + Q).y = (P.y * Q.y + P.x * Q.x) / (1 - c.d * P.x * Q.x * P.y * Q.y) := rfl

protected theorem add_comm' (P Q : EdPoint c) : P + Q = Q + P := by
  ext
  · rw [add_x, add_x]; congr 1 <;> ring
  · rw [add_y, add_y]; congr 1 <;> ring

protected theorem zero_add' (P : EdPoint c) : 0 + P = P := by
  ext
  · rw [add_x]; simp
  · rw [add_y]; simp

protected theorem add_zero' (P : EdPoint c) : P + 0 = P := by
  rw [EdPoint.add_comm', EdPoint.zero_add']

protected theorem neg_add_cancel' (P : EdPoint c) : -P + P = 0 := by
  have hb := denom_sub_ne_zero (-P) P
  ext
  · rw [add_x]; simp only [neg_x, neg_y, zero_x]
    rw [div_eq_zero_iff]; left; ring
  · rw [add_y, zero_y, div_eq_one_iff_eq hb]; simp only [neg_x, neg_y]
    linear_combination P.on

/-- translation by the point (i, 0) of order 4 -/
def rot (P : EdPoint c) : EdPoint c :=
  ⟨c.i * P.y, c.i * P.x, by
    linear_combination (P.x ^ 2 - P.y ^ 2 - c.d * P.x ^ 2 * P.y ^ 2 * (c.i ^ 2 - 1)) * c.i_sq + P.on⟩

theorem rot_x (P : EdPoint c) : (rot P).x = c.i * P.y := rfl
theorem rot_y (P : EdPoint c) : (rot P).y = c.i * P.x := rfl

/-- `rot` swaps the two coordinate formulas of the addition law -/
theorem rot_add (P Q : EdPoint c) : rot P + Q = rot (P + Q) := by
  have h : c.d * (c.i * P.y) * Q.x * (c.i * P.x) * Q.y = -(c.d * P.x * Q.x * P.y * Q.y) := by
    linear_combination (c.d * P.x * Q.x * P.y * Q.y) * c.i_sq
  ext
  · rw [add_x, rot_x, rot_x, rot_y, add_y, h, ← sub_eq_add_neg, ← mul_div_assoc]
    congr 1; ring
  · rw [add_y, rot_y, rot_x, rot_y, add_x, h, sub_neg_eq_add, ← mul_div_assoc]
    congr 1; ring

open EdCert (num3 den3)

/-- the x-coordinate of `(nx/a, ny/b) + (x₃, y₃)` with the inner denominators `a`, `b` (abstract atoms) cleared -/
private theorem clear (d nx ny a b x3 y3 : K) (ha : a ≠ 0) (hb : b ≠ 0) :
    (nx / a * y3 + ny / b * x3) * (a * b) = nx * b * y3 + ny * a * x3 ∧
    (1 + d * (nx / a) * x3 * (ny / b) * y3) * (a * b) = a * b + d * nx * ny * x3 * y3 := by
  constructor <;> field_simp

theorem add_add_x (P Q R : EdPoint c) :
    den3 c.d P.x P.y Q.x Q.y R.x R.y ≠ 0 ∧
      ((P + Q) + R).x = num3 c.d P.x P.y Q.x Q.y R.x R.y / den3 c.d P.x P.y Q.x Q.y R.x R.y := by
  have hab := mul_ne_zero (denom_add_ne_zero P Q) (denom_sub_ne_zero P Q)
  have hc := denom_add_ne_zero (P + Q) R
  obtain ⟨hn, hd⟩ := clear c.d (P.x * Q.y + P.y * Q.x) (P.y * Q.y + P.x * Q.x) _ _ R.x R.y
    (denom_add_ne_zero P Q) (denom_sub_ne_zero P Q)
  rw [add_x (P + Q) R]
  rw [add_x P Q, add_y P Q] at hc ⊢
  rw [← mul_div_mul_right _ _ hab, hn, hd]
  exact ⟨by unfold den3; rw [← hd]; exact mul_ne_zero hc hab, rfl⟩

theorem add_assoc_x (P Q R : EdPoint c) : ((P + Q) + R).x = (P + (Q + R)).x := by
  obtain ⟨hL, eL⟩ := add_add_x P Q R
  obtain ⟨hR, eR⟩ := add_add_x Q R P
  rw [EdPoint.add_comm' P (Q + R), eL, eR, div_eq_div_iff hL hR]
  exact EdCert.assoc_num_x c.d P.x P.y Q.x Q.y R.x R.y P.on Q.on R.on

/-- the x-coordinates by the polynomial certificate; the y-coordinates are x-coordinates after translation by (i, 0) -/
protected theorem add_assoc' (P Q R : EdPoint c) : (P + Q) + R = P + (Q + R) := by
  ext
  · exact add_assoc_x P Q R
  · have hi : c.i ≠ 0 := fun h => by simpa [h] using c.i_sq
    apply mul_left_cancel₀ hi
    rw [← rot_x, ← rot_x, ← rot_add, ← rot_add, ← rot_add, add_assoc_x]

instance instAddCommGroup : AddCommGroup (EdPoint c) where
  add := (· + ·)
  zero := 0
  neg := Neg.neg
  add_assoc := EdPoint.add_assoc'
  zero_add := EdPoint.zero_add'
  add_zero := EdPoint.add_zero'
  neg_add_cancel := EdPoint.neg_add_cancel'
  add_comm := EdPoint.add_comm'
  nsmul := nsmulRec
  zsmul := zsmulRec

theorem sub_def (P Q : EdPoint c) : P - Q = P + -Q := sub_eq_add_neg P Q

theorem two_nsmul' (P : EdPoint c) : 2 • P = P + P := two_nsmul P

end EdPoint
end Voi.Proofs

#print axioms Voi.Proofs.EdPoint.denoms_ne_zero
#print axioms Voi.Proofs.EdPoint.closure
#print axioms Voi.Proofs.EdPoint.add_assoc'
#print axioms Voi.Proofs.EdPoint.instAddCommGroup

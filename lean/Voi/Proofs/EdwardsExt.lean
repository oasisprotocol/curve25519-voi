/-
Extended twisted Edwards coordinates (X : Y : Z : T) over a field `K` with the side conditions of `EdCurve`: the
formulas add-2008-hwcd-3 and dbl-2008-hwcd (a = -1), written operation by operation as in `Voi.Spec.Ext.add` /
`Ext.dbl`, map representatives of P, Q to a representative of P + Q / P + P, for all points (identity, small order,
P = ±Q); in particular the output Z is never 0.
-/
import Voi.Proofs.EdwardsCurve
namespace Voi.Proofs

structure ExtK (K : Type*) where
  X : K
  Y : K
  Z : K
  T : K

namespace ExtK
variable {K : Type*} [Field K]

def zero : ExtK K := ⟨0, 1, 1, 0⟩
def ofAffine (x y : K) : ExtK K := ⟨x, y, 1, x * y⟩

/-- add-2008-hwcd-3 (a = -1), same operation sequence as `Voi.Spec.Ext.add`; `d2 = d + d` -/
def add (d2 : K) (P Q : ExtK K) : ExtK K :=
  let A := (P.Y - P.X) * (Q.Y - Q.X)
  let B := (P.Y + P.X) * (Q.Y + Q.X)
  let C := (P.T * d2) * Q.T
  let D := (P.Z + P.Z) * Q.Z
  let E := B - A; let F := D - C; let G := D + C; let H := B + A
  ⟨E * F, G * H, F * G, E * H⟩

/-- dbl-2008-hwcd (a = -1), same operation sequence as `Voi.Spec.Ext.dbl` -/
def dbl (P : ExtK K) : ExtK K :=
  let A := P.X * P.X; let B := P.Y * P.Y; let C := P.Z * P.Z + P.Z * P.Z
  let D := -A
  let E := ((P.X + P.Y) * (P.X + P.Y) - A) - B
  let G := D + B; let F := G - C; let H := D - B
  ⟨E * F, G * H, F * G, E * H⟩

def neg (P : ExtK K) : ExtK K := ⟨-P.X, P.Y, P.Z, -P.T⟩

omit [Field K] in
theorem ext' {a b : ExtK K} (hX : a.X = b.X) (hY : a.Y = b.Y) (hZ : a.Z = b.Z) (hT : a.T = b.T) : a = b := by
  cases a; cases b; simp_all

structure Rep (c : EdCurve K) (E : ExtK K) (P : EdPoint c) : Prop where
  z_ne : E.Z ≠ 0
  hx : E.X = P.x * E.Z
  hy : E.Y = P.y * E.Z
  ht : E.T * E.Z = E.X * E.Y

namespace Rep
variable {c : EdCurve K}

theorem t_eq {E : ExtK K} {P : EdPoint c} (h : Rep c E P) : E.T = P.x * P.y * E.Z := by
  apply mul_right_cancel₀ h.z_ne
  rw [h.ht, h.hx, h.hy]; ring

theorem zero : Rep c (ExtK.zero : ExtK K) 0 :=
  ⟨one_ne_zero, by simp [ExtK.zero], by simp [ExtK.zero], by simp [ExtK.zero]⟩

theorem ofAffine (P : EdPoint c) : Rep c (ExtK.ofAffine P.x P.y) P :=
  ⟨one_ne_zero, by simp [ExtK.ofAffine], by simp [ExtK.ofAffine], by simp [ExtK.ofAffine]⟩

theorem toAffine {E : ExtK K} {P : EdPoint c} (h : Rep c E P) :
    E.X * E.Z⁻¹ = P.x ∧ E.Y * E.Z⁻¹ = P.y := by
  constructor
  · rw [h.hx, mul_assoc, mul_inv_cancel₀ h.z_ne, mul_one]
  · rw [h.hy, mul_assoc, mul_inv_cancel₀ h.z_ne, mul_one]

theorem unique {E : ExtK K} {P Q : EdPoint c} (h : Rep c E P) (h' : Rep c E Q) : P = Q := by
  ext
  · rw [← h.toAffine.1, ← h'.toAffine.1]
  · rw [← h.toAffine.2, ← h'.toAffine.2]

/-- the projective equality test (`Voi.Spec.Ext.eq`, the library's `Equal`) -/
theorem eq_iff {E E' : ExtK K} {P Q : EdPoint c} (h : Rep c E P) (h' : Rep c E' Q) :
    (E.X * E'.Z = E'.X * E.Z ∧ E.Y * E'.Z = E'.Y * E.Z) ↔ P = Q := by
  have hz := mul_ne_zero h.z_ne h'.z_ne
  -- each equation compares a coordinate of P with one of Q, both times Z·Z'
  rw [EdPoint.ext_iff, h.hx, h'.hx, h.hy, h'.hy, mul_right_comm Q.x, mul_right_comm Q.y, mul_assoc,
    mul_assoc P.y, mul_assoc, mul_assoc Q.y, mul_left_inj' hz, mul_left_inj' hz]

/-- identity test (`Voi.Spec.Ext.isZero`) -/
theorem isZero_iff {E : ExtK K} {P : EdPoint c} (h : Rep c E P) :
    (E.X = 0 ∧ E.Y = E.Z) ↔ P = 0 := by
  rw [EdPoint.ext_iff, h.hx, h.hy, mul_eq_zero, or_iff_left h.z_ne, mul_left_eq_self₀, or_iff_left h.z_ne]
  rfl

theorem scale {E : ExtK K} {P : EdPoint c} (h : Rep c E P) {l : K} (hl : l ≠ 0) :
    Rep c ⟨l * E.X, l * E.Y, l * E.Z, l * E.T⟩ P where
  z_ne := mul_ne_zero hl h.z_ne
  hx := by show l * E.X = P.x * (l * E.Z); rw [h.hx]; ring
  hy := by show l * E.Y = P.y * (l * E.Z); rw [h.hy]; ring
  ht := by show l * E.T * (l * E.Z) = l * E.X * (l * E.Y); linear_combination (l * l) * h.ht

theorem neg {E : ExtK K} {P : EdPoint c} (h : Rep c E P) : Rep c (ExtK.neg E) (-P) := by
  refine ⟨h.z_ne, ?_, ?_, ?_⟩
  · simp only [ExtK.neg, EdPoint.neg_x]; rw [h.hx]; ring
  · simp only [ExtK.neg, EdPoint.neg_y]; exact h.hy
  · simp only [ExtK.neg]; linear_combination -h.ht

/-- the last step of both formulas: (E·F : G·H : F·G : E·H) is the point x = E/G, y = H/F (the "completed" point of
curve/models.go) -/
theorem ofCompleted {E F G H : K} {P : EdPoint c} (hF : F ≠ 0) (hG : G ≠ 0) (hx : E = P.x * G)
    (hy : H = P.y * F) : Rep c ⟨E * F, G * H, F * G, E * H⟩ P :=
  ⟨mul_ne_zero hF hG, by rw [hx]; ring, by rw [hy]; ring, by ring⟩

/-- add-2008-hwcd-3 is complete: no condition on P, Q, and Z₃ ≠ 0 -/
theorem add {E E' : ExtK K} {P Q : EdPoint c} (h : Rep c E P) (h' : Rep c E' Q) :
    Rep c (ExtK.add (c.d + c.d) E E') (P + Q) := by
  have ha := EdPoint.denom_add_ne_zero P Q
  have hb := EdPoint.denom_sub_ne_zero P Q
  have hzz := mul_ne_zero c.two_ne (mul_ne_zero h.z_ne h'.z_ne)
  -- F = 2 Z₁Z₂ (1 - d x₁x₂y₁y₂), G = 2 Z₁Z₂ (1 + d x₁x₂y₁y₂), E = 2 Z₁Z₂ (x₁y₂ + y₁x₂), H = 2 Z₁Z₂ (y₁y₂ + x₁x₂)
  have hF : (E.Z + E.Z) * E'.Z - E.T * (c.d + c.d) * E'.T = 2 * (E.Z * E'.Z) * (1 - c.d * P.x * Q.x * P.y * Q.y) := by
    rw [h.t_eq, h'.t_eq]; ring
  have hG : (E.Z + E.Z) * E'.Z + E.T * (c.d + c.d) * E'.T = 2 * (E.Z * E'.Z) * (1 + c.d * P.x * Q.x * P.y * Q.y) := by
    rw [h.t_eq, h'.t_eq]; ring
  refine ofCompleted (hF ▸ mul_ne_zero hzz hb) (hG ▸ mul_ne_zero hzz ha) ?_ ?_
  · rw [hG, EdPoint.add_x, div_mul_eq_mul_div, eq_div_iff ha, h.hx, h.hy, h'.hx, h'.hy]; ring
  · rw [hF, EdPoint.add_y, div_mul_eq_mul_div, eq_div_iff hb, h.hx, h.hy, h'.hx, h'.hy]; ring

theorem dbl {E : ExtK K} {P : EdPoint c} (h : Rep c E P) : Rep c (ExtK.dbl E) (P + P) := by
  have ha := EdPoint.denom_add_ne_zero P P
  have hb := EdPoint.denom_sub_ne_zero P P
  have hzz := mul_ne_zero h.z_ne h.z_ne
  -- by the curve equation, G = Z² (1 + d x²y²) and F = -Z² (1 - d x²y²)
  have hG : -(E.X * E.X) + E.Y * E.Y = E.Z * E.Z * (1 + c.d * P.x * P.x * P.y * P.y) := by
    rw [h.hx, h.hy]; linear_combination (E.Z * E.Z) * P.on
  have hF : -(E.X * E.X) + E.Y * E.Y - (E.Z * E.Z + E.Z * E.Z) = -(E.Z * E.Z) * (1 - c.d * P.x * P.x * P.y * P.y) := by
    rw [hG]; ring
  refine ofCompleted (hF ▸ mul_ne_zero (neg_ne_zero.2 hzz) hb) (hG ▸ mul_ne_zero hzz ha) ?_ ?_
  · rw [hG, EdPoint.add_x, div_mul_eq_mul_div, eq_div_iff ha, h.hx, h.hy]; ring
  · rw [hF, EdPoint.add_y, div_mul_eq_mul_div, eq_div_iff hb, h.hx, h.hy]; ring

end Rep
end ExtK
end Voi.Proofs

#print axioms Voi.Proofs.ExtK.Rep.add
#print axioms Voi.Proofs.ExtK.Rep.dbl
#print axioms Voi.Proofs.ExtK.Rep.eq_iff

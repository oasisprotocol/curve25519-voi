/-
Primality of p = 2^255 - 19 and of the group order L by Pratt certificates: a table with one line `(n, a, qs)` per prime
of the two certificate trees (`qs` the prime factorisation of `n - 1`, `a` a Lucas witness), a checker with its
soundness (`Pratt.prime_of_check`, by `lucas_primality`), and one kernel evaluation of the checker on the table.
Printed by Voi/Proofs/gen_primes.py from /verif/notes/pratt_p25519.txt and /verif/notes/pratt_L.txt.
-/
import Mathlib.NumberTheory.LucasPrimality
import Voi.Spec.Field
namespace Voi.Proofs
namespace Pratt

/-- `a ^ e % n` by square-and-multiply; recursion on `fuel` so that the kernel can run it -/
def powMod (n a : ℕ) : ℕ → ℕ → ℕ
  | 0, _ => 1 % n
  | fuel + 1, e => if e = 0 then 1 % n else powMod n a fuel (e / 2) ^ 2 * a ^ (e % 2) % n

theorem powMod_eq (n a : ℕ) : ∀ fuel e, e < 2 ^ fuel → powMod n a fuel e = a ^ e % n
  | 0, e, he => by rw [Nat.lt_one_iff.mp he]; rfl
  | fuel + 1, e, he => by
    unfold powMod
    split
    · next h => rw [h, pow_zero]
    · rw [powMod_eq n a fuel (e / 2) (by omega), Nat.mul_mod, ← Nat.pow_mod, ← Nat.mul_mod, ← pow_mul, ← pow_add,
        Nat.div_add_mod']

/-- `lucas_primality` with `%` on ℕ for `ZMod n`, the prime factors of `n - 1` as a list -/
theorem lucas {n a : ℕ} {qs : List ℕ} (hqs : ∀ q ∈ qs, q.Prime) (hn : qs.prod + 1 = n)
    (h1 : a ^ (n - 1) % n = 1) (hq : ∀ q ∈ qs, a ^ ((n - 1) / q) % n ≠ 1) : n.Prime := by
  have hn1 : 1 % n = 1 := by
    rcases n with _ | _ | n
    · omega
    · simp at h1
    · rfl
  have cast (e : ℕ) : (a : ZMod n) ^ e = 1 ↔ a ^ e % n = 1 := by
    rw [← Nat.cast_pow, ← Nat.cast_one, ZMod.natCast_eq_natCast_iff', hn1]
  refine lucas_primality n a ((cast _).2 h1) fun q hqp hqd => ?_
  rw [← hn, Nat.add_sub_cancel] at hqd
  obtain ⟨r, hr, hqr⟩ := (Prime.dvd_prod_iff hqp.prime).1 hqd
  rw [(Nat.prime_dvd_prime_iff_eq hqp (hqs r hr)).1 hqr, Ne, cast]
  exact hq r hr

/-- the fuel `n` of `powMod` is enough: every exponent is below `n < 2 ^ n` -/
def rowOk (known : List ℕ) : ℕ × ℕ × List ℕ → Bool
  | (n, a, qs) => qs.all (· ∈ known) && qs.prod + 1 == n && powMod n a n (n - 1) == 1 &&
      qs.all fun q => powMod n a n ((n - 1) / q) != 1

/-- the known primes of a line are 2 and the numbers of the lines below it -/
def check : List (ℕ × ℕ × List ℕ) → Bool
  | [] => true
  | r :: rs => rowOk (2 :: rs.map (·.1)) r && check rs

theorem prime_of_check : ∀ t, check t = true → ∀ n ∈ t.map (·.1), n.Prime
  | [], _, _, h => by simp at h
  | (m, a, qs) :: rs, ht, n, h => by
    simp only [check, rowOk, Bool.and_eq_true, List.all_eq_true, decide_eq_true_eq, beq_iff_eq, bne_iff_ne] at ht
    obtain ⟨⟨⟨⟨hk, hm⟩, h1⟩, hq⟩, hrs⟩ := ht
    have ih := prime_of_check rs hrs
    rcases List.mem_cons.1 h with rfl | h
    · have lt {e : ℕ} (he : e ≤ n - 1) : e < 2 ^ n := (by omega : e < n).trans Nat.lt_two_pow_self
      have known (q) (hq : q ∈ qs) : q.Prime := by
        rcases List.mem_cons.1 (hk q hq) with rfl | h'
        · exact Nat.prime_two
        · exact ih q h'
      rw [powMod_eq _ _ _ _ (lt le_rfl)] at h1
      refine lucas known hm h1 fun q hq' => ?_
      rw [← powMod_eq _ _ _ _ (lt (Nat.div_le_self _ _))]
      exact hq q hq'
    · exact ih n h

def table : List (ℕ × ℕ × List ℕ) := [
  (57896044618658097711785492504343953926634992332820282019728792003956564819949, 2, [2, 2, 3, 65147, 74058212732561358302231226437062788676166966415465897661863160754340907]),
  (7237005577332262213973186563042994240857116359379907606001950938285454250989, 2, [2, 2, 3, 11, 198211423230930754013084525763697, 276602624281642239937218680557139826668747]),
  (74058212732561358302231226437062788676166966415465897661863160754340907, 2, [2, 3, 353, 57467, 132049, 1923133, 31757755568855353, 75445702479781427272750846543864801]),
  (276602624281642239937218680557139826668747, 2, [2, 7, 19757330305831588566944191468367130476339]),
  (19757330305831588566944191468367130476339, 2, [2, 269, 213441916511, 172054593956031949258510691]),
  (75445702479781427272750846543864801, 7, [2, 2, 2, 2, 2, 3, 3, 5, 5, 75707, 72106336199, 1919519569386763]),
  (198211423230930754013084525763697, 5, [2, 2, 2, 2, 3, 23, 58964693, 3044861653679985063343]),
  (172054593956031949258510691, 2, [2, 5, 1361, 2851, 4434155615661930479]),
  (3044861653679985063343, 5, [2, 3, 11, 30703, 82163, 132667, 137849]),
  (4434155615661930479, 17, [2, 41, 43, 1257559732178653]),
  (31757755568855353, 10, [2, 2, 2, 3, 31, 107, 223, 4153, 430751]),
  (1919519569386763, 2, [2, 3, 7, 19, 47, 47, 127, 8574133]),
  (1257559732178653, 2, [2, 2, 3, 7, 23, 531581, 1224481]),
  (213441916511, 13, [2, 5, 73, 292386187]),
  (72106336199, 7, [2, 13, 2773320623]),
  (2773320623, 5, [2, 2437, 569003]),
  (292386187, 2, [2, 3, 3, 3, 3, 307, 5879]),
  (58964693, 2, [2, 2, 14741173]),
  (14741173, 2, [2, 2, 3, 3, 409477]),
  (8574133, 2, [2, 2, 3, 7, 103, 991]),
  (1923133, 2, [2, 2, 3, 43, 3727]),
  (1224481, 13, [2, 2, 2, 2, 2, 3, 5, 2551]),
  (569003, 2, [2, 7, 97, 419]),
  (531581, 2, [2, 2, 5, 7, 3797]),
  (430751, 17, [2, 5, 5, 5, 1723]),
  (409477, 2, [2, 2, 3, 34123]),
  (137849, 3, [2, 2, 2, 17231]),
  (132667, 5, [2, 3, 22111]),
  (132049, 26, [2, 2, 2, 2, 3, 3, 7, 131]),
  (82163, 2, [2, 41081]),
  (75707, 2, [2, 37853]),
  (65147, 2, [2, 32573]),
  (57467, 2, [2, 59, 487]),
  (41081, 3, [2, 2, 2, 5, 13, 79]),
  (37853, 2, [2, 2, 9463]),
  (34123, 2, [2, 3, 11, 11, 47]),
  (32573, 2, [2, 2, 17, 479]),
  (30703, 3, [2, 3, 7, 17, 43]),
  (22111, 6, [2, 3, 5, 11, 67]),
  (17231, 13, [2, 5, 1723]),
  (9463, 3, [2, 3, 19, 83]),
  (5879, 11, [2, 2939]),
  (4153, 5, [2, 2, 2, 3, 173]),
  (3797, 2, [2, 2, 13, 73]),
  (3727, 3, [2, 3, 3, 3, 3, 23]),
  (2939, 2, [2, 13, 113]),
  (2851, 2, [2, 3, 5, 5, 19]),
  (2551, 6, [2, 3, 5, 5, 17]),
  (2437, 2, [2, 2, 3, 7, 29]),
  (1723, 3, [2, 3, 7, 41]),
  (1361, 3, [2, 2, 2, 2, 5, 17]),
  (991, 6, [2, 3, 3, 5, 11]),
  (487, 3, [2, 3, 3, 3, 3, 3]),
  (479, 13, [2, 239]),
  (419, 2, [2, 11, 19]),
  (353, 3, [2, 2, 2, 2, 2, 11]),
  (307, 5, [2, 3, 3, 17]),
  (269, 2, [2, 2, 67]),
  (239, 7, [2, 7, 17]),
  (223, 3, [2, 3, 37]),
  (173, 2, [2, 2, 43]),
  (131, 2, [2, 5, 13]),
  (127, 3, [2, 3, 3, 7]),
  (113, 3, [2, 2, 2, 2, 7]),
  (107, 2, [2, 53]),
  (103, 5, [2, 3, 17]),
  (97, 5, [2, 2, 2, 2, 2, 3]),
  (83, 2, [2, 41]),
  (79, 3, [2, 3, 13]),
  (73, 5, [2, 2, 2, 3, 3]),
  (67, 2, [2, 3, 11]),
  (59, 2, [2, 29]),
  (53, 2, [2, 2, 13]),
  (47, 5, [2, 23]),
  (43, 3, [2, 3, 7]),
  (41, 6, [2, 2, 2, 5]),
  (37, 2, [2, 2, 3, 3]),
  (31, 3, [2, 3, 5]),
  (29, 2, [2, 2, 7]),
  (23, 5, [2, 11]),
  (19, 2, [2, 3, 3]),
  (17, 3, [2, 2, 2, 2]),
  (13, 2, [2, 2, 3]),
  (11, 2, [2, 5]),
  (7, 3, [2, 3]),
  (5, 2, [2, 2]),
  (3, 2, [2])]

theorem table_ok : check table = true := by decide +kernel

theorem prime_of_mem_table {n : ℕ} (h : n ∈ table.map (·.1)) : n.Prime := prime_of_check table table_ok n h

theorem prime_3 : Nat.Prime 3 := prime_of_mem_table (by decide +kernel)
theorem prime_17 : Nat.Prime 17 := prime_of_mem_table (by decide +kernel)
theorem prime_29 : Nat.Prime 29 := prime_of_mem_table (by decide +kernel)
theorem prime_37 : Nat.Prime 37 := prime_of_mem_table (by decide +kernel)
theorem prime_53 : Nat.Prime 53 := prime_of_mem_table (by decide +kernel)
theorem prime_59 : Nat.Prime 59 := prime_of_mem_table (by decide +kernel)
theorem prime_67 : Nat.Prime 67 := prime_of_mem_table (by decide +kernel)
theorem prime_79 : Nat.Prime 79 := prime_of_mem_table (by decide +kernel)
theorem prime_83 : Nat.Prime 83 := prime_of_mem_table (by decide +kernel)
theorem prime_97 : Nat.Prime 97 := prime_of_mem_table (by decide +kernel)
theorem prime_113 : Nat.Prime 113 := prime_of_mem_table (by decide +kernel)
theorem prime_131 : Nat.Prime 131 := prime_of_mem_table (by decide +kernel)
theorem prime_173 : Nat.Prime 173 := prime_of_mem_table (by decide +kernel)
theorem prime_239 : Nat.Prime 239 := prime_of_mem_table (by decide +kernel)
theorem prime_419 : Nat.Prime 419 := prime_of_mem_table (by decide +kernel)
theorem prime_479 : Nat.Prime 479 := prime_of_mem_table (by decide +kernel)
theorem prime_487 : Nat.Prime 487 := prime_of_mem_table (by decide +kernel)
theorem prime_1723 : Nat.Prime 1723 := prime_of_mem_table (by decide +kernel)
theorem prime_2939 : Nat.Prime 2939 := prime_of_mem_table (by decide +kernel)
theorem prime_3797 : Nat.Prime 3797 := prime_of_mem_table (by decide +kernel)
theorem prime_9463 : Nat.Prime 9463 := prime_of_mem_table (by decide +kernel)
theorem prime_17231 : Nat.Prime 17231 := prime_of_mem_table (by decide +kernel)
theorem prime_22111 : Nat.Prime 22111 := prime_of_mem_table (by decide +kernel)
theorem prime_32573 : Nat.Prime 32573 := prime_of_mem_table (by decide +kernel)
theorem prime_34123 : Nat.Prime 34123 := prime_of_mem_table (by decide +kernel)
theorem prime_37853 : Nat.Prime 37853 := prime_of_mem_table (by decide +kernel)
theorem prime_41081 : Nat.Prime 41081 := prime_of_mem_table (by decide +kernel)
end Pratt

open Voi.Spec

theorem p_prime : Nat.Prime (2^255 - 19) := Pratt.prime_of_mem_table (by decide +kernel)

theorem p_prime' : Nat.Prime Voi.Spec.p := p_prime

theorem L_prime : Nat.Prime Voi.Spec.L := Pratt.prime_of_mem_table (by decide +kernel)

instance fact_p_prime : Fact (Nat.Prime Voi.Spec.p) := ⟨p_prime'⟩
instance fact_L_prime : Fact (Nat.Prime Voi.Spec.L) := ⟨L_prime⟩

example : Field (ZMod Voi.Spec.p) := inferInstance

end Voi.Proofs

#print axioms Voi.Proofs.p_prime
#print axioms Voi.Proofs.L_prime


/-
The executable Spec (`Voi.Spec.Pt`, `Voi.Spec.Ext`, `Voi.Spec.msm`: the oracle the real code is compared with on every
run of streams G1/D1) computes in the group `Ed25519`.  `toEd P h` maps a Spec point (pair of Nats) with
`P.onCurve = true` to the group through `Nat.cast : ℕ → ZMod p`; it is a bijection.  Every operation is proved once as a
relation between Spec values and group elements (`PtIs P A` for affine points, `Represents E A` for extended
coordinates: `ExtK.Rep` read through `toZ`), and the `…_onCurve` / `toEd_…` statements are its two halves.
-/
import Voi.Props.C07.FpRing
import Voi.Spec.Edwards
import Voi.Proofs.Ed25519Group
import Voi.Proofs.EdwardsExt
namespace Voi.Proofs
open Voi.Spec Voi.Props.C07

/- Mathlib has a root-level `toZ` (order theory) -/
local notation "toZ" => Voi.Props.C07.toZ

@[simp] theorem c25519_d : c25519.d = d25519 := rfl

theorem onCurve_iff (P : Pt) :
    P.onCurve = true ↔ P.x < p ∧ P.y < p ∧
      -(toZ P.x) ^ 2 + (toZ P.y) ^ 2 = 1 + d25519 * (toZ P.x) ^ 2 * (toZ P.y) ^ 2 := by
  unfold Pt.onCurve
  simp only [Bool.and_eq_true, decide_eq_true_eq, beq_iff_eq]
  rw [← toZ_inj_iff (sub_lt _ _) (add_lt _ _), and_assoc]
  simp only [fp]
  exact and_congr_right fun _ => and_congr_right fun _ =>
    ⟨fun h => by linear_combination h, fun h => by linear_combination h⟩

def toEd (P : Pt) (h : P.onCurve = true) : Ed25519 :=
  ⟨toZ P.x, toZ P.y, ((onCurve_iff P).mp h).2.2⟩

@[simp] theorem toEd_x (P : Pt) (h : P.onCurve = true) : (toEd P h).x = toZ P.x := rfl
@[simp] theorem toEd_y (P : Pt) (h : P.onCurve = true) : (toEd P h).y = toZ P.y := rfl

/-- on-curve Spec points are canonical (coordinates < p) -/
theorem toEd_inj {P Q : Pt} {hP : P.onCurve = true} {hQ : Q.onCurve = true}
    (h : toEd P hP = toEd Q hQ) : P = Q := by
  obtain ⟨hPx, hPy, _⟩ := (onCurve_iff P).mp hP
  obtain ⟨hQx, hQy, _⟩ := (onCurve_iff Q).mp hQ
  have hx : toZ P.x = toZ Q.x := congrArg EdPoint.x h
  have hy : toZ P.y = toZ Q.y := congrArg EdPoint.y h
  cases P; cases Q
  simp only [Pt.mk.injEq]
  exact ⟨toZ_inj hPx hQx hx, toZ_inj hPy hQy hy⟩

theorem toEd_surj (A : Ed25519) : ∃ (P : Pt) (h : P.onCurve = true), toEd P h = A := by
  have hx : toZ A.x.val = A.x := ZMod.natCast_zmod_val A.x
  have hy : toZ A.y.val = A.y := ZMod.natCast_zmod_val A.y
  have hc : (⟨A.x.val, A.y.val⟩ : Pt).onCurve = true := by
    rw [onCurve_iff]
    refine ⟨ZMod.val_lt A.x, ZMod.val_lt A.y, ?_⟩
    simp only [hx, hy]
    exact A.on
  exact ⟨⟨A.x.val, A.y.val⟩, hc, by ext <;> simp [hx, hy]⟩

def PtIs (P : Pt) (A : Ed25519) : Prop := ∃ h : P.onCurve = true, toEd P h = A

theorem PtIs.of_coords {P : Pt} {A : Ed25519} (hx : P.x < p) (hy : P.y < p)
    (ex : toZ P.x = A.x) (ey : toZ P.y = A.y) : PtIs P A := by
  have hc : P.onCurve = true := by
    rw [onCurve_iff]; refine ⟨hx, hy, ?_⟩; rw [ex, ey]; exact A.on
  exact ⟨hc, by ext <;> simp [ex, ey]⟩

theorem PtIs.of_toEd (P : Pt) (h : P.onCurve = true) : PtIs P (toEd P h) := ⟨h, rfl⟩

theorem PtIs.inj {P Q : Pt} {A : Ed25519} (hP : PtIs P A) (hQ : PtIs Q A) : P = Q :=
  toEd_inj (hP.2.trans hQ.2.symm)

theorem toZ_add_x (P Q : Pt) : toZ (Pt.add P Q).x =
    (toZ P.x * toZ Q.y + toZ P.y * toZ Q.x) / (1 + d25519 * toZ P.x * toZ Q.x * toZ P.y * toZ Q.y) := by
  unfold Pt.add
  simp only [fp]
  rw [div_eq_mul_inv]; congr 2; ring

theorem toZ_add_y (P Q : Pt) : toZ (Pt.add P Q).y =
    (toZ P.y * toZ Q.y + toZ P.x * toZ Q.x) / (1 - d25519 * toZ P.x * toZ Q.x * toZ P.y * toZ Q.y) := by
  unfold Pt.add
  simp only [fp]
  rw [div_eq_mul_inv]; congr 2; ring

theorem PtIs.add {P Q : Pt} {A B : Ed25519} (hP : PtIs P A) (hQ : PtIs Q B) :
    PtIs (Pt.add P Q) (A + B) := by
  obtain ⟨hP, rfl⟩ := hP
  obtain ⟨hQ, rfl⟩ := hQ
  apply PtIs.of_coords
  · exact mul_lt _ _
  · exact mul_lt _ _
  · rw [toZ_add_x, EdPoint.add_x]; rfl
  · rw [toZ_add_y, EdPoint.add_y]; rfl

theorem add_onCurve {P Q : Pt} (hP : P.onCurve = true) (hQ : Q.onCurve = true) :
    (Pt.add P Q).onCurve = true :=
  ((PtIs.of_toEd P hP).add (PtIs.of_toEd Q hQ)).1

theorem toEd_add {P Q : Pt} (hP : P.onCurve = true) (hQ : Q.onCurve = true) :
    toEd (Pt.add P Q) (add_onCurve hP hQ) = toEd P hP + toEd Q hQ :=
  ((PtIs.of_toEd P hP).add (PtIs.of_toEd Q hQ)).2

theorem PtIs.neg {P : Pt} {A : Ed25519} (hP : PtIs P A) : PtIs (Pt.neg P) (-A) := by
  obtain ⟨hP, rfl⟩ := hP
  apply PtIs.of_coords
  · exact neg_lt _
  · exact mod_lt _
  · simp only [Pt.neg, toZ_neg, EdPoint.neg_x, toEd_x]
  · simp only [Pt.neg, toZ_mod, EdPoint.neg_y, toEd_y]

theorem neg_onCurve {P : Pt} (hP : P.onCurve = true) : (Pt.neg P).onCurve = true :=
  (PtIs.of_toEd P hP).neg.1

theorem toEd_neg {P : Pt} (hP : P.onCurve = true) :
    toEd (Pt.neg P) (neg_onCurve hP) = -toEd P hP := (PtIs.of_toEd P hP).neg.2

theorem PtIs.zero : PtIs Pt.zero 0 := by
  apply PtIs.of_coords (by decide) (by decide)
  · simp [Pt.zero, toZ_zero]
  · simp [Pt.zero, toZ_one]

theorem zero_onCurve : Pt.zero.onCurve = true := PtIs.zero.1
theorem toEd_zero : toEd Pt.zero zero_onCurve = 0 := PtIs.zero.2

theorem PtIs.sub {P Q : Pt} {A B : Ed25519} (hP : PtIs P A) (hQ : PtIs Q B) :
    PtIs (Pt.sub P Q) (A - B) := by
  rw [sub_eq_add_neg]; exact hP.add hQ.neg

theorem sub_onCurve {P Q : Pt} (hP : P.onCurve = true) (hQ : Q.onCurve = true) :
    (Pt.sub P Q).onCurve = true := ((PtIs.of_toEd P hP).sub (PtIs.of_toEd Q hQ)).1

theorem toEd_sub {P Q : Pt} (hP : P.onCurve = true) (hQ : Q.onCurve = true) :
    toEd (Pt.sub P Q) (sub_onCurve hP hQ) = toEd P hP - toEd Q hQ :=
  ((PtIs.of_toEd P hP).sub (PtIs.of_toEd Q hQ)).2

theorem PtIs.dbl {P : Pt} {A : Ed25519} (hP : PtIs P A) : PtIs (Pt.dbl P) (2 • A) := by
  rw [two_nsmul]; exact hP.add hP

theorem dbl_onCurve {P : Pt} (hP : P.onCurve = true) : (Pt.dbl P).onCurve = true :=
  (PtIs.of_toEd P hP).dbl.1

theorem toEd_dbl {P : Pt} (hP : P.onCurve = true) :
    toEd (Pt.dbl P) (dbl_onCurve hP) = 2 • toEd P hP := (PtIs.of_toEd P hP).dbl.2

theorem PtIs.isZero_iff {P : Pt} {A : Ed25519} (hP : PtIs P A) : P.isZero = true ↔ A = 0 := by
  obtain ⟨hP, rfl⟩ := hP
  unfold Pt.isZero
  rw [Bool.and_eq_true, beq_iff_eq, beq_iff_eq, ← toZ_eq_zero_iff, show (1 : Nat) = 1 % p by decide,
    ← toZ_eq_iff, toZ_one, EdPoint.ext_iff]
  rfl

def extToK (E : Ext) : ExtK F25519 := ⟨toZ E.X, toZ E.Y, toZ E.Z, toZ E.T⟩

/-- the coordinates of `E` need not be reduced -/
def Represents (E : Ext) (A : Ed25519) : Prop := ExtK.Rep c25519 (extToK E) A

theorem extToK_add (E E' : Ext) :
    extToK (Ext.add E E') = ExtK.add (d25519 + d25519) (extToK E) (extToK E') := by
  simp only [Ext.add, ExtK.add, extToK, fp]

theorem extToK_dbl (E : Ext) : extToK (Ext.dbl E) = ExtK.dbl (extToK E) := by
  simp only [Ext.dbl, ExtK.dbl, extToK, fp]

theorem extToK_neg (E : Ext) : extToK (Ext.neg E) = ExtK.neg (extToK E) := by
  simp only [Ext.neg, ExtK.neg, extToK, fp]

namespace Represents

theorem zero : Represents Ext.zero 0 := by
  have : extToK Ext.zero = ExtK.zero := by
    simp [extToK, Ext.zero, ExtK.zero, toZ_zero, toZ_one]
  unfold Represents; rw [this]; exact ExtK.Rep.zero

theorem ofPt {P : Pt} {A : Ed25519} (hP : PtIs P A) : Represents (Ext.ofPt P) A := by
  obtain ⟨hP, rfl⟩ := hP
  have : extToK (Ext.ofPt P) = ExtK.ofAffine (toZ P.x) (toZ P.y) := by
    simp [extToK, Ext.ofPt, ExtK.ofAffine, toZ_mul, toZ_one]
  unfold Represents; rw [this]; exact ExtK.Rep.ofAffine (toEd P hP)

theorem add {E E' : Ext} {A B : Ed25519} (h : Represents E A) (h' : Represents E' B) :
    Represents (Ext.add E E') (A + B) := by
  unfold Represents; rw [extToK_add]; exact ExtK.Rep.add h h'

theorem dbl {E : Ext} {A : Ed25519} (h : Represents E A) : Represents (Ext.dbl E) (2 • A) := by
  unfold Represents; rw [extToK_dbl, two_nsmul]; exact ExtK.Rep.dbl h

theorem neg {E : Ext} {A : Ed25519} (h : Represents E A) : Represents (Ext.neg E) (-A) := by
  unfold Represents; rw [extToK_neg]; exact ExtK.Rep.neg h

theorem toPt {E : Ext} {A : Ed25519} (h : Represents E A) : PtIs (Ext.toPt E) A := by
  have ha := ExtK.Rep.toAffine h
  apply PtIs.of_coords
  · exact mul_lt _ _
  · exact mul_lt _ _
  · simp only [Ext.toPt, toZ_mul, toZ_inv']; exact ha.1
  · simp only [Ext.toPt, toZ_mul, toZ_inv']; exact ha.2

theorem unique {E : Ext} {A B : Ed25519} (h : Represents E A) (h' : Represents E B) : A = B :=
  ExtK.Rep.unique h h'

theorem eq_iff {E E' : Ext} {A B : Ed25519} (h : Represents E A) (h' : Represents E' B) :
    Ext.eq E E' = true ↔ A = B := by
  rw [← ExtK.Rep.eq_iff h h']
  unfold Ext.eq
  simp only [Bool.and_eq_true, beq_iff_eq, extToK, ← toZ_mul, toZ_inj_iff (mul_lt _ _) (mul_lt _ _)]

theorem isZero_iff {E : Ext} {A : Ed25519} (h : Represents E A) : Ext.isZero E = true ↔ A = 0 := by
  rw [← ExtK.Rep.isZero_iff h]
  unfold Ext.isZero
  simp only [Bool.and_eq_true, beq_iff_eq, extToK]
  rw [← toZ_eq_zero_iff, ← toZ_eq_iff]

theorem smulAux {E : Ext} {A : Ed25519} (h : Represents E A) (n : Nat) :
    ∀ (i : Nat) (acc : Ext) (B : Ed25519), Represents acc B →
      Represents (Ext.smulAux E i n acc) (2 ^ i • B + (n % 2 ^ i) • A)
  | 0, acc, B, hB => by simpa [Ext.smulAux, Nat.mod_one] using hB
  | i + 1, acc, B, hB => by
    have hstep : Represents (if n.testBit i then Ext.add (Ext.dbl acc) E else Ext.dbl acc)
        (2 • B + (n.testBit i).toNat • A) := by
      cases n.testBit i
      · simpa using hB.dbl
      · simpa using hB.dbl.add h
    have := smulAux h n i _ _ hstep
    rwa [Nat.toNat_testBit, smul_add, smul_smul, smul_smul, add_assoc, ← add_smul, ← pow_succ,
      Nat.add_comm (2 ^ i * _), ← Nat.mod_pow_succ] at this

theorem smul {E : Ext} {A : Ed25519} (h : Represents E A) (n : Nat) :
    Represents (Ext.smul n E) (n • A) := by
  have := smulAux h n n.log2.succ Ext.zero 0 zero
  rw [smul_zero, zero_add, Nat.mod_eq_of_lt Nat.lt_log2_self] at this
  exact this

end Represents

theorem PtIs.smul {P : Pt} {A : Ed25519} (hP : PtIs P A) (n : Nat) : PtIs (Pt.smul n P) (n • A) :=
  ((Represents.ofPt hP).smul n).toPt

theorem smul_onCurve {P : Pt} (hP : P.onCurve = true) (n : Nat) : (Pt.smul n P).onCurve = true :=
  ((PtIs.of_toEd P hP).smul n).1

theorem toEd_smul {P : Pt} (hP : P.onCurve = true) (n : Nat) :
    toEd (Pt.smul n P) (smul_onCurve hP n) = n • toEd P hP := ((PtIs.of_toEd P hP).smul n).2

theorem PtIs.mul8 {P : Pt} {A : Ed25519} (hP : PtIs P A) : PtIs (Pt.mul8 P) (8 • A) := by
  have h := (Represents.ofPt hP).dbl.dbl.dbl.toPt
  have e : 2 • 2 • 2 • A = 8 • A := by rw [smul_smul, smul_smul]; norm_num
  rw [e] at h; exact h

theorem mul8_onCurve {P : Pt} (hP : P.onCurve = true) : (Pt.mul8 P).onCurve = true :=
  (PtIs.of_toEd P hP).mul8.1

theorem toEd_mul8 {P : Pt} (hP : P.onCurve = true) :
    toEd (Pt.mul8 P) (mul8_onCurve hP) = 8 • toEd P hP := (PtIs.of_toEd P hP).mul8.2

theorem isSmallOrder_iff {P : Pt} (hP : P.onCurve = true) :
    P.isSmallOrder = true ↔ 8 • toEd P hP = 0 :=
  (PtIs.of_toEd P hP).mul8.isZero_iff

theorem isTorsionFree_iff {P : Pt} (hP : P.onCurve = true) :
    P.isTorsionFree = true ↔ L • toEd P hP = 0 :=
  ((PtIs.of_toEd P hP).smul L).isZero_iff

/-- total (off-curve pairs ↦ 0), to state sums over lists -/
noncomputable def edOf (P : Pt) : Ed25519 := if h : P.onCurve = true then toEd P h else 0

theorem edOf_eq {P : Pt} (h : P.onCurve = true) : edOf P = toEd P h := by
  unfold edOf; rw [dif_pos h]

theorem PtIs.of_edOf {P : Pt} (h : P.onCurve = true) : PtIs P (edOf P) := ⟨h, (edOf_eq h).symm⟩

/-- `Σ sᵢ • Pᵢ` over the zipped lists: any lengths, any scalars -/
theorem PtIs.msm (ss : List Nat) (ps : List Pt) (hps : ∀ P ∈ ps, P.onCurve = true) :
    PtIs (msm ss ps) (((ss.zip ps).map fun sp => sp.1 • edOf sp.2).sum) := by
  unfold Spec.msm
  apply Represents.toPt
  have gen : ∀ (l : List (Nat × Pt)) (acc : Ext) (A : Ed25519), (∀ sp ∈ l, sp.2.onCurve = true) →
      Represents acc A →
      Represents (l.foldl (fun acc (sp : Nat × Pt) => Ext.add acc (Ext.smul sp.1 (Ext.ofPt sp.2))) acc)
        (A + (l.map fun sp => sp.1 • edOf sp.2).sum) := by
    intro l
    induction l with
    | nil => intro acc A _ hA; simpa using hA
    | cons sp l ih =>
      intro acc A hl hA
      simp only [List.foldl_cons, List.map_cons, List.sum_cons]
      have hsp : sp.2.onCurve = true := hl sp (List.mem_cons_self ..)
      have h1 := hA.add ((Represents.ofPt (PtIs.of_edOf hsp)).smul sp.1)
      have := ih _ _ (fun q hq => hl q (List.mem_cons_of_mem _ hq)) h1
      rw [add_assoc] at this
      exact this
  have := gen (ss.zip ps) Ext.zero 0 (fun sp hsp => hps _ (List.of_mem_zip hsp).2) Represents.zero
  rw [zero_add] at this
  exact this

theorem msm_onCurve (ss : List Nat) (ps : List Pt) (hps : ∀ P ∈ ps, P.onCurve = true) :
    (msm ss ps).onCurve = true := (PtIs.msm ss ps hps).1

theorem toEd_msm (ss : List Nat) (ps : List Pt) (hps : ∀ P ∈ ps, P.onCurve = true) :
    toEd (msm ss ps) (msm_onCurve ss ps hps) = ((ss.zip ps).map fun sp => sp.1 • edOf sp.2).sum :=
  (PtIs.msm ss ps hps).2

abbrev CurvePt := {P : Pt // P.onCurve = true}

def toEd' (P : CurvePt) : Ed25519 := toEd P.1 P.2

def CurvePt.add (P Q : CurvePt) : CurvePt := ⟨Pt.add P.1 Q.1, add_onCurve P.2 Q.2⟩
def CurvePt.neg (P : CurvePt) : CurvePt := ⟨Pt.neg P.1, neg_onCurve P.2⟩
def CurvePt.zero : CurvePt := ⟨Pt.zero, zero_onCurve⟩
def CurvePt.smul (n : Nat) (P : CurvePt) : CurvePt := ⟨Pt.smul n P.1, smul_onCurve P.2 n⟩

theorem toEd'_add (P Q : CurvePt) : toEd' (P.add Q) = toEd' P + toEd' Q := toEd_add P.2 Q.2
theorem toEd'_neg (P : CurvePt) : toEd' P.neg = -toEd' P := toEd_neg P.2
theorem toEd'_zero : toEd' CurvePt.zero = 0 := toEd_zero
theorem toEd'_smul (n : Nat) (P : CurvePt) : toEd' (P.smul n) = n • toEd' P := toEd_smul P.2 n

theorem toEd'_bijective : Function.Bijective toEd' := by
  constructor
  · intro P Q h
    exact Subtype.ext (toEd_inj h)
  · intro A
    obtain ⟨P, h, e⟩ := toEd_surj A
    exact ⟨⟨P, h⟩, e⟩

noncomputable def toEdEquiv : CurvePt ≃ Ed25519 := Equiv.ofBijective toEd' toEd'_bijective

/-- the group laws read back on the executable Spec, as equalities of Nat pairs -/
theorem Pt_add_assoc {P Q R : Pt} (hP : P.onCurve = true) (hQ : Q.onCurve = true)
    (hR : R.onCurve = true) : Pt.add (Pt.add P Q) R = Pt.add P (Pt.add Q R) := by
  have hP := PtIs.of_toEd P hP
  have hQ := PtIs.of_toEd Q hQ
  have hR := PtIs.of_toEd R hR
  exact ((hP.add hQ).add hR).inj (by rw [add_assoc]; exact hP.add (hQ.add hR))

theorem Pt_add_comm {P Q : Pt} (hP : P.onCurve = true) (hQ : Q.onCurve = true) :
    Pt.add P Q = Pt.add Q P := by
  have hP := PtIs.of_toEd P hP
  have hQ := PtIs.of_toEd Q hQ
  exact (hP.add hQ).inj (by rw [add_comm]; exact hQ.add hP)

theorem Pt_add_neg {P : Pt} (hP : P.onCurve = true) : Pt.add P (Pt.neg P) = Pt.zero := by
  have hP := PtIs.of_toEd P hP
  exact (hP.add hP.neg).inj (by rw [add_neg_cancel]; exact PtIs.zero)

theorem Pt_add_zero {P : Pt} (hP : P.onCurve = true) : Pt.add P Pt.zero = P := by
  have hP := PtIs.of_toEd P hP
  exact (hP.add PtIs.zero).inj (by rw [add_zero]; exact hP)

theorem B_onCurve : Pt.B.onCurve = true := by decide +kernel
theorem T1_onCurve : Pt.T1.onCurve = true := by decide +kernel

def Bpt : Ed25519 := toEd Pt.B B_onCurve

/-- `Pt.B` is the RFC 8032 base point: y = 4/5 and x is even -/
theorem B_y : Pt.B.y = Fp.mul 4 (Fp.inv 5) := by decide +kernel
theorem B_x_even : Pt.B.x % 2 = 0 := by decide +kernel

/-- evaluated on the executable Spec by the kernel -/
theorem L_smul_B : L • Bpt = 0 :=
  (isTorsionFree_iff B_onCurve).mp (by decide +kernel)

theorem B_ne_zero : Bpt ≠ 0 := by
  intro h
  have hx : toZ Pt.B.x = 0 := congrArg EdPoint.x h
  rw [toZ_eq_zero_iff] at hx
  exact absurd hx (by decide +kernel)

/-- uses that L is prime -/
theorem addOrderOf_B : addOrderOf Bpt = L := addOrderOf_eq_prime L_smul_B B_ne_zero

theorem smul_B_mod (n : Nat) : (n % L) • Bpt = n • Bpt := by
  rw [← addOrderOf_B]; exact mod_addOrderOf_nsmul Bpt n

example : PtIs Pt.B Bpt := PtIs.of_toEd _ _
example : PtIs (Pt.add Pt.B Pt.B) (Bpt + Bpt) := (PtIs.of_toEd _ _).add (PtIs.of_toEd _ _)
example : Represents (Ext.ofPt Pt.B) Bpt := Represents.ofPt (PtIs.of_toEd _ _)
example : Pt.T1.onCurve = true := T1_onCurve
example : 8 • toEd Pt.T1 (by decide +kernel) = 0 :=
  (isSmallOrder_iff T1_onCurve).mp (by decide +kernel)
example : L • toEd Pt.T1 (by decide +kernel) ≠ 0 := fun h =>
  absurd ((isTorsionFree_iff T1_onCurve).mpr h) (by decide +kernel)

end Voi.Proofs

#print axioms Voi.Proofs.toEd_add
#print axioms Voi.Proofs.toEd_neg
#print axioms Voi.Proofs.toEd_zero
#print axioms Voi.Proofs.add_onCurve
#print axioms Voi.Proofs.Represents.add
#print axioms Voi.Proofs.Represents.dbl
#print axioms Voi.Proofs.Represents.smul
#print axioms Voi.Proofs.toEd_smul
#print axioms Voi.Proofs.toEd_mul8
#print axioms Voi.Proofs.toEd_msm
#print axioms Voi.Proofs.toEd'_bijective
#print axioms Voi.Proofs.Pt_add_assoc
#print axioms Voi.Proofs.L_smul_B
#print axioms Voi.Proofs.B_ne_zero
#print axioms Voi.Proofs.addOrderOf_B

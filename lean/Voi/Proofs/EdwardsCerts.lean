/-
Polynomial certificates for the a = -1 twisted Edwards addition law on -x² + y² = 1 + d x² y² over a commutative ring
(C03): closure and associativity (x-coordinate) as denominator-cleared identities, in the shape in which
`Voi.Proofs.EdwardsCurve` meets them.  The cofactors w.r.t. the curve equations come from sympy (`reduced`, grevlex) and
are checked by `linear_combination`.  Printed by Voi/Proofs/gen_assoc.py.
-/
import Mathlib.Tactic.LinearCombination
namespace Voi.Proofs.EdCert
variable {K : Type*} [CommRing K]

/-- the curve equation at P₁+P₂ = (nx/a, ny/b), multiplied by a²b² -/
theorem closure_num (d x1 y1 x2 y2 : K) (h1 : -x1^2 + y1^2 = 1 + d*x1^2*y1^2) (h2 : -x2^2 + y2^2 = 1 + d*x2^2*y2^2) :
    -(x1*y2 + y1*x2)^2*(1 - d*x1*x2*y1*y2)^2 + (y1*y2 + x1*x2)^2*(1 + d*x1*x2*y1*y2)^2
      = (1 + d*x1*x2*y1*y2)^2*(1 - d*x1*x2*y1*y2)^2 + d*(x1*y2 + y1*x2)^2*(y1*y2 + x1*x2)^2 := by
  linear_combination (d^3*x1^2*x2^4*y1^2*y2^4 - d^2*x1^2*x2^4*y2^4 + d^2*x2^4*y1^2*y2^4 - d^2*x2^4*y2^4 - d*x1^2*x2^4*y2^2 + d*x1^2*x2^2*y2^4 + d*x2^4*y1^2*y2^2 - 2*d*x2^4*y2^4 - d*x2^2*y1^2*y2^4 - 2*d*x2^2*y2^2 - 2*x2^4*y2^2 + x2^4 + 2*x2^2*y2^4 - 4*x2^2*y2^2 + y2^4) * h1 + (d*x1^4*x2^2*y2^2 + 2*d*x1^2*x2^2*y2^2 + d*x2^2*y1^4*y2^2 - 2*d*x2^2*y1^2*y2^2 + d*x2^2*y2^2 + 2*x1^2*x2^2*y2^2 - x1^2*x2^2 + x1^2*y2^2 - 2*x2^2*y1^2*y2^2 + x2^2*y1^2 + 2*x2^2*y2^2 - x2^2 - y1^2*y2^2 + y2^2 + 1) * h2

/-- numerator of the x-coordinate of (P₁+P₂)+P₃ once the denominators of P₁+P₂ are cleared -/
def num3 (d x1 y1 x2 y2 x3 y3 : K) : K :=
  (x1 * y2 + y1 * x2) * (1 - d * x1 * x2 * y1 * y2) * y3 + (y1 * y2 + x1 * x2) * (1 + d * x1 * x2 * y1 * y2) * x3

/-- its denominator -/
def den3 (d x1 y1 x2 y2 x3 y3 : K) : K :=
  (1 + d * x1 * x2 * y1 * y2) * (1 - d * x1 * x2 * y1 * y2) + d * (x1 * y2 + y1 * x2) * (y1 * y2 + x1 * x2) * x3 * y3

/-- the x-coordinates of (P₁+P₂)+P₃ and (P₂+P₃)+P₁, cross-multiplied; their difference is d·x₂·y₂ times a combination
of the curve equations -/
theorem assoc_num_x (d x1 y1 x2 y2 x3 y3 : K) (h1 : -x1^2 + y1^2 = 1 + d*x1^2*y1^2) (h2 : -x2^2 + y2^2 = 1 + d*x2^2*y2^2) (h3 : -x3^2 + y3^2 = 1 + d*x3^2*y3^2) :
    num3 d x1 y1 x2 y2 x3 y3 * den3 d x2 y2 x3 y3 x1 y1 = num3 d x2 y2 x3 y3 x1 y1 * den3 d x1 y1 x2 y2 x3 y3 := by
  unfold num3 den3
  linear_combination (d*x2*y2) * ((-x1*x2^2*x3^3*y2 + x1*x2^2*x3*y2*y3^2 - x1*x2^2*x3*y2 - x1*x2*x3^2*y2^2*y3 + x1*x2*x3^2*y3 + x1*x2*y2^2*y3^3 - x1*x2*y2^2*y3 + x1*x3*y2*y3^2 - x2^2*x3^2*y1*y2*y3 + x2^2*y1*y2*y3^3 - x2^2*y1*y2*y3 - x2*x3^3*y1*y2^2 + x2*x3*y1*y2^2*y3^2 - x2*x3*y1*y2^2 - x2*x3*y1*y3^2 - x3^2*y1*y2*y3) * h1 + (-d*x1*x3*y1*y3*(x1^2*x2*x3*y1 + x1^2*y1*y2*y3 - x1*x2*x3^2*y3 - x1*x2*y1^2*y3 - x1*x3*y1^2*y2 + x1*x3*y2*y3^2 + x2*x3*y1*y3^2 - x3^2*y1*y2*y3)) * h2 + (x1^3*x2^2*x3*y2 + x1^3*x2*y2^2*y3 + x1^2*x2^2*y1*y2*y3 + x1^2*x2*x3*y1*y2^2 - x1^2*x2*x3*y1 + x1^2*y1*y2*y3 - x1*x2^2*x3*y1^2*y2 + x1*x2^2*x3*y2 - x1*x2*y1^2*y2^2*y3 + x1*x2*y1^2*y3 + x1*x2*y2^2*y3 - x1*x3*y1^2*y2 - x2^2*y1^3*y2*y3 + x2^2*y1*y2*y3 - x2*x3*y1^3*y2^2 + x2*x3*y1*y2^2) * h3)

end Voi.Proofs.EdCert

#print axioms Voi.Proofs.EdCert.closure_num
#print axioms Voi.Proofs.EdCert.assoc_num_x

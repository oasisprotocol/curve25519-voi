/-
edwards25519 satisfies the hypotheses of `EdCurve` over ZMod p, hence its points form a commutative group.  d and
i = 2^((p-1)/4) are the images under `toZ` of the executable field's constants `Fp.d`, `Fp.sqrtM1` (`toZ_d`,
`toZ_sqrtM1`), so that i² = -1 (`sqrtM1_sq`) and that d is not a square (`d25519_nonsq`) are read off what the kernel
computes on the executable field.
-/
import Mathlib.Tactic.NormNum.Prime
import Voi.Proofs.SqrtRatio
import Voi.Proofs.EdwardsCurve
namespace Voi.Proofs
open Voi.Spec
open Voi.Props.C07 hiding toZ
/- Mathlib has a root-level `toZ` (order theory) -/
local notation "toZ" => Voi.Props.C07.toZ

abbrev F25519 := ZMod p

def sqrtM1 : F25519 := 2 ^ ((p - 1) / 4)

def d25519 : F25519 := -121665 / 121666

theorem toZ_sqrtM1 : toZ Fp.sqrtM1 = sqrtM1 := by
  unfold Fp.sqrtM1 sqrtM1
  rw [toZ_pow _ _ (by decide)]
  rfl

@[fp] theorem toZ_d : toZ Fp.d = d25519 := by
  unfold Fp.d d25519
  rw [toZ_mul, toZ_neg, toZ_inv', div_eq_mul_inv]
  rfl

@[fp] theorem toZ_d2 : toZ Fp.d2 = d25519 + d25519 := by
  unfold Fp.d2; rw [toZ_add, toZ_d]

theorem two_ne_zero25519 : (2 : F25519) ≠ 0 := SqrtRatio.two_ne_zero'

theorem sqrtM1_sq : sqrtM1 ^ 2 = -1 := toZ_sqrtM1 ▸ SqrtRatio.I_sq

theorem neg_one_isSquare : IsSquare (-1 : F25519) := ⟨sqrtM1, by rw [← sqrtM1_sq, sq]⟩

theorem d25519_mul : d25519 * 121666 = -121665 := div_mul_cancel₀ _ (ofNat_ne_zero 121666 (by decide))

/-- Euler's criterion: `Fp.d ^ ((p-1)/2) = p - 1`, computed by the kernel -/
theorem d25519_nonsq : ¬ IsSquare d25519 := toZ_d ▸ SqrtRatio.not_isSquare_of_pow_half (by decide +kernel)

def c25519 : EdCurve F25519 where
  d := d25519
  i := sqrtM1
  i_sq := sqrtM1_sq
  d_nonsq := d25519_nonsq
  two_ne := two_ne_zero25519

/-- all 8·L rational points of edwards25519, not only the prime-order subgroup -/
abbrev Ed25519 := EdPoint c25519

example : AddCommGroup Ed25519 := inferInstance

section toy
local instance : Fact (Nat.Prime 13) := ⟨by norm_num⟩
example : EdCurve (ZMod 13) := ⟨2, 5, by decide, by decide, by decide⟩
end toy

end Voi.Proofs

#print axioms Voi.Proofs.sqrtM1_sq
#print axioms Voi.Proofs.d25519_nonsq
#print axioms Voi.Proofs.c25519

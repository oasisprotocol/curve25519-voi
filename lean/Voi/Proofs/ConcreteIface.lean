/-
The interface `EdIface` on the on-curve points of the executable Spec: `onCurve`, with carrier
`CurvePt = {P : Pt // P.onCurve}` and the executable `Pt.add/neg/smul`, a commutative group by pulling back along the
injection `toEd' : CurvePt → Ed25519` of `SpecBridge`.  It satisfies `Laws`, `ExpHyp` (from `#E = 8·L`, `GroupOrder`),
`ShortVecOK` (`LatticeInv`, with the fuel bound of `LatticeFuel`) and `C02.OrderExact`.  The executable instance
`concrete`, whose carrier `Pt` also contains off-curve pairs, decides the same on all inputs: an interface morphism
(`Hom`) preserves every decision, and the inclusion is one (`val_hom`).
-/
import Voi.Proofs.SpecBridge
import Voi.Proofs.GroupOrder
import Voi.Props.C10
import Voi.Props.ScMinimal
import Voi.Props.LatticeFuel
import Voi.Props.C02

namespace Voi.Proofs.ConcreteIface
open Voi Voi.Spec Voi.Proofs Voi.Model.Ed25519 Voi.Props.C01
open Voi.Spec.Ed25519 (VOpts Dom dom2)

-- `2 ^ 512` occurs in statements
set_option exponentiation.threshold 1024

def CurvePt.zsmul (z : ℤ) (P : CurvePt) : CurvePt :=
  if 0 ≤ z then CurvePt.smul z.toNat P else CurvePt.neg (CurvePt.smul (-z).toNat P)

instance : Zero CurvePt := ⟨CurvePt.zero⟩
instance : Add CurvePt := ⟨CurvePt.add⟩
instance : Neg CurvePt := ⟨CurvePt.neg⟩
instance : Sub CurvePt := ⟨fun P Q => CurvePt.add P (CurvePt.neg Q)⟩
instance : SMul ℕ CurvePt := ⟨CurvePt.smul⟩
instance : SMul ℤ CurvePt := ⟨CurvePt.zsmul⟩

theorem toEd'_zsmul (z : ℤ) (P : CurvePt) : toEd' (CurvePt.zsmul z P) = z • toEd' P := by
  unfold CurvePt.zsmul
  split_ifs with h
  · rw [toEd'_smul, ← natCast_zsmul, Int.toNat_of_nonneg h]
  · rw [toEd'_neg, toEd'_smul, ← natCast_zsmul, Int.toNat_of_nonneg (by omega), neg_smul, neg_neg]

/-! The lemmas of `SpecBridge` in the notation of these instances, with the arguments in the order
`Function.Injective.addCommGroup` asks for; handing it the unprimed ones makes the unifier unfold the Spec operations. -/

theorem toEd'_zero' : toEd' (0 : CurvePt) = 0 := toEd'_zero
theorem toEd'_add' (P Q : CurvePt) : toEd' (P + Q) = toEd' P + toEd' Q := toEd'_add P Q
theorem toEd'_neg' (P : CurvePt) : toEd' (-P) = -toEd' P := toEd'_neg P
theorem toEd'_sub' (P Q : CurvePt) : toEd' (P - Q) = toEd' P - toEd' Q := by
  show toEd' (CurvePt.add P (CurvePt.neg Q)) = _
  rw [toEd'_add, toEd'_neg, sub_eq_add_neg]
theorem toEd'_nsmul (P : CurvePt) (n : ℕ) : toEd' (n • P) = n • toEd' P := toEd'_smul n P
theorem toEd'_zsmul' (P : CurvePt) (z : ℤ) : toEd' (z • P) = z • toEd' P := toEd'_zsmul z P

instance instAddCommGroupCurvePt : AddCommGroup CurvePt :=
  Function.Injective.addCommGroup toEd' toEd'_bijective.1 toEd'_zero' toEd'_add' toEd'_neg' toEd'_sub'
    toEd'_nsmul toEd'_zsmul'

noncomputable def toEdAddEquiv : CurvePt ≃+ Ed25519 :=
  { toEdEquiv with map_add' := toEd'_add' }

@[simp] theorem toEdAddEquiv_apply (P : CurvePt) : toEdAddEquiv P = toEd' P := rfl

theorem toEd'_inj {P Q : CurvePt} : toEd' P = toEd' Q ↔ P = Q := toEd'_bijective.1.eq_iff
theorem toEd'_eq_zero {P : CurvePt} : toEd' P = 0 ↔ P = 0 := by rw [← toEd'_zero', toEd'_inj]

def liftOpt : (o : Option Pt) → (∀ P, o = some P → P.onCurve = true) → Option CurvePt
  | none, _ => none
  | some P, H => some ⟨P, H P rfl⟩

theorem liftOpt_some {o : Option Pt} {P : Pt} (h : o = some P) (H : ∀ P, o = some P → P.onCurve = true) :
    liftOpt o H = some ⟨P, H P h⟩ := by subst h; rfl

theorem liftOpt_map (o : Option Pt) (H : ∀ P, o = some P → P.onCurve = true) :
    (liftOpt o H).map Subtype.val = o := by cases o <;> rfl

def Bc : CurvePt := ⟨Pt.B, B_onCurve⟩

theorem toEd'_Bc : toEd' Bc = Bpt := rfl

/-- the executable functions of `concrete` on the carrier `CurvePt` -/
abbrev onCurve : EdIface where
  G := CurvePt
  zero := CurvePt.zero
  add := CurvePt.add
  neg := CurvePt.neg
  smul := CurvePt.smul
  B := Bc
  decode := fun b => liftOpt (Pt.decode b) (fun _ h => (Voi.Props.C10.decode_on_curve h).1)
  encode := fun P => Pt.encode P.1
  isCanonicalEnc := Pt.isCanonicalEnc
  isSmallOrder := fun P => Pt.isSmallOrder P.1
  beqG := fun P Q => P.1 == Q.1
  L := Voi.Spec.L
  scMinimal := scMinimalVartime
  hash512 := sha512
  shortVec := Voi.Model.Lattice.fsv

instance : AddCommGroup onCurve.G := instAddCommGroupCurvePt

theorem decode_some {b : Bytes} {P : Pt} (h : Pt.decode b = some P) :
    onCurve.decode b = some ⟨P, (Voi.Props.C10.decode_on_curve h).1⟩ := liftOpt_some h _

theorem decode_val (b : Bytes) : (onCurve.decode b).map Subtype.val = Pt.decode b := liftOpt_map _ _

theorem onCurve_L_B : onCurve.L • onCurve.B = 0 := by
  apply toEd'_eq_zero.1
  rw [toEd'_nsmul]
  exact L_smul_B

theorem onCurve_isSmallOrder_iff (P : CurvePt) : onCurve.isSmallOrder P = true ↔ (8 : ℕ) • P = 0 := by
  rw [← toEd'_eq_zero, toEd'_nsmul]
  -- unfolded by hand: the unifier does not get through `onCurve` and `toEd'` on its own
  dsimp only [onCurve]
  unfold toEd'
  exact Voi.Proofs.isSmallOrder_iff P.2

theorem onCurve_laws : Laws onCurve where
  zero_eq := rfl
  add_eq := fun _ _ => rfl
  neg_eq := fun _ => rfl
  smul_eq := fun _ _ => rfl
  L_prime := Voi.Proofs.L_prime
  coprime8 := concrete_coprime8
  L_lt := concrete_L_lt
  L_B := onCurve_L_B
  isSmallOrder_iff := onCurve_isSmallOrder_iff
  decode_encode := fun P => decode_some (Voi.Props.C10.encode_decode P.2)
  canonical_encode := fun P => Voi.Props.C10.encode_canonical P.2
  encode_size := fun P => Voi.Props.C10.encode_size P.1
  scMinimal_iff := fun b hs => Voi.Props.ScMinimal.scMinimal_iff' b hs

theorem onCurve_expHyp : ExpHyp onCurve := by
  intro P
  apply toEd'_eq_zero.1
  rw [toEd'_nsmul]
  exact exp_Ed25519 _

theorem concrete_shortVecOK' {k : ℕ} (hk : k < 2 ^ 512) : ShortVecOK concrete k :=
  concrete_shortVecOK k (Voi.Props.LatticeFuel.finished_of_lt hk)

/-- `onCurve` has the `L` and the `shortVec` of `concrete` -/
theorem onCurve_shortVecOK {k : ℕ} (hk : k < 2 ^ 512) : ShortVecOK onCurve k := concrete_shortVecOK' hk

theorem onCurve_shortVecOK_lt (k : ℕ) (hk : k < onCurve.L) : ShortVecOK onCurve k :=
  onCurve_shortVecOK (lt_trans hk (by decide))

theorem onCurve_orderExact : Voi.Props.C02.OrderExact onCurve :=
  Voi.Props.C02.orderExact_of_ne_zero onCurve onCurve_laws fun h => B_ne_zero (toEd'_eq_zero.2 h)

/-- a map of carriers commuting with every operation of the interface that the model reads (`beqG` is read nowhere) -/
structure Hom (I J : EdIface) (φ : I.G → J.G) : Prop where
  zero : φ I.zero = J.zero
  add : ∀ P Q, φ (I.add P Q) = J.add (φ P) (φ Q)
  neg : ∀ P, φ (I.neg P) = J.neg (φ P)
  smul : ∀ n P, φ (I.smul n P) = J.smul n (φ P)
  B : φ I.B = J.B
  decode : ∀ b, J.decode b = (I.decode b).map φ
  encode : ∀ P, J.encode (φ P) = I.encode P
  isCanonicalEnc : J.isCanonicalEnc = I.isCanonicalEnc
  isSmallOrder : ∀ P, J.isSmallOrder (φ P) = I.isSmallOrder P
  L : J.L = I.L
  scMinimal : J.scMinimal = I.scMinimal
  hash512 : J.hash512 = I.hash512
  shortVec : J.shortVec = I.shortVec

namespace Hom
variable {I J : EdIface} {φ : I.G → J.G} (h : Hom I J φ)
include h

theorem unpackPublicKey_eq (o : VOpts) (pk : Bytes) :
    unpackPublicKey J o pk = (unpackPublicKey I o pk).map φ := by
  unfold unpackPublicKey
  rw [h.decode pk, h.isCanonicalEnc]
  cases I.decode pk with
  | none => rfl
  | some A =>
    simp only [Option.map_some, h.isSmallOrder]
    split_ifs <;> rfl

theorem unpackSignature_eq (o : VOpts) (sig : Bytes) :
    unpackSignature J o sig = (unpackSignature I o sig).map (Prod.map φ id) := by
  unfold unpackSignature
  simp only [h.decode, h.isCanonicalEnc, h.scMinimal, h.L, ← h.zero]
  generalize I.decode (bslice sig 0 32) = d
  cases d with
  | none =>
    simp only [Option.map_none]
    split_ifs <;> rfl
  | some R =>
    simp only [Option.map_some, h.isSmallOrder]
    split_ifs <;> rfl

theorem challenge_eq (f : Dom) (ctx r a msg : Bytes) :
    SpecG.challenge J f ctx r a msg = SpecG.challenge I f ctx r a msg := by
  unfold SpecG.challenge; rw [h.hash512, h.L]

theorem hram_eq (f : Dom) (ctx sig pk msg : Bytes) : hram J f ctx sig pk msg = hram I f ctx sig pk msg :=
  h.challenge_eq f ctx (bslice sig 0 32) pk msg

theorem double_eq (a : ℕ) (A : I.G) (b : ℕ) :
    doubleScalarMulBasepoint J a (φ A) b = φ (doubleScalarMulBasepoint I a A b) := by
  unfold doubleScalarMulBasepoint
  rw [h.add, h.smul, h.smul, h.B]

theorem triple_eq (a : ℕ) (A : I.G) (b : ℕ) (C : I.G) :
    tripleScalarMulBasepoint J a (φ A) b (φ C) = φ (tripleScalarMulBasepoint I a A b C) := by
  unfold tripleScalarMulBasepoint scNeg
  simp only [h.shortVec, h.L, ← h.B, ← h.neg, ← h.smul]
  split_ifs <;> simp only [← h.smul, ← h.add]

theorem cofactorless_eq (R : I.G) (sig : Bytes) : cofactorlessVerify J (φ R) sig = cofactorlessVerify I R sig := by
  unfold cofactorlessVerify; rw [h.encode]

theorem verify_eq (o : VOpts) (f : Dom) (ctx pk msg sig : Bytes) :
    verify J o f ctx pk msg sig = verify I o f ctx pk msg sig := by
  unfold verify
  rw [h.unpackPublicKey_eq, h.unpackSignature_eq, h.hram_eq]
  cases unpackPublicKey I o pk with
  | none => rfl
  | some A =>
    cases unpackSignature I o sig with
    | none => rfl
    | some RS =>
      obtain ⟨R, S⟩ := RS
      simp only [Option.map_some, Prod.map, id, ← h.neg, h.double_eq, h.triple_eq, h.cofactorless_eq,
        h.isSmallOrder]

theorem specG_verify_eq (o : VOpts) (f : Dom) (ctx pk msg sig : Bytes) :
    SpecG.verify J o f ctx pk msg sig = SpecG.verify I o f ctx pk msg sig := by
  unfold SpecG.verify
  simp only [h.decode, h.isCanonicalEnc, h.L, h.challenge_eq]
  cases I.decode pk <;> cases I.decode (bslice sig 0 32) <;>
    simp only [Option.map_some, Option.map_none, ← h.B, ← h.smul, ← h.neg, ← h.add, h.encode, h.isSmallOrder]

theorem signWith_eq (f : Dom) (ctx : Bytes) (a r : ℕ) (aBytes msg : Bytes) :
    SpecG.signWith J f ctx a r aBytes msg = SpecG.signWith I f ctx a r aBytes msg := by
  unfold SpecG.signWith
  simp only [← h.B, ← h.smul, h.encode, h.challenge_eq, h.L]

def mapKey (φ : I.G → J.G) (xk : ExpandedKey I) : ExpandedKey J :=
  { compressed := xk.compressed, negA := φ xk.negA, isValidY := xk.isValidY, isSmallOrder := xk.isSmallOrder,
    isCanonical := xk.isCanonical }

theorem newExpandedPublicKey_eq (pk : Bytes) :
    newExpandedPublicKey J pk = (newExpandedPublicKey I pk).map (mapKey φ) := by
  unfold newExpandedPublicKey
  rw [h.decode pk, h.isCanonicalEnc]
  cases I.decode pk with
  | none => rfl
  | some A => simp only [Option.map_some, mapKey, h.isSmallOrder, h.neg]

theorem verifyExpanded_eq (o : VOpts) (f : Dom) (ctx : Bytes) (xk : ExpandedKey I) (msg sig : Bytes) :
    verifyExpanded J o f ctx (mapKey φ xk) msg sig = verifyExpanded I o f ctx xk msg sig := by
  unfold verifyExpanded
  have hc : checkExpandedPublicKey J o (mapKey φ xk) = checkExpandedPublicKey I o xk := rfl
  rw [hc, h.unpackSignature_eq, h.hram_eq]
  cases unpackSignature I o sig with
  | none => rfl
  | some RS =>
    obtain ⟨R, S⟩ := RS
    simp only [Option.map_some, Prod.map, id, mapKey, h.double_eq, h.triple_eq, h.cofactorless_eq, h.isSmallOrder]

theorem verifyWithOptions_eq (o : Option VOpts) (hs : HashSel) (ctx pk msg sig : Bytes) :
    verifyWithOptions J o hs ctx pk msg sig = verifyWithOptions I o hs ctx pk msg sig := by
  unfold verifyWithOptions
  simp only [h.verify_eq]

theorem verifyExpandedWithOptions_eq (o : Option VOpts) (hs : HashSel) (ctx pk msg sig : Bytes) :
    verifyExpandedWithOptions J o hs ctx pk msg sig = verifyExpandedWithOptions I o hs ctx pk msg sig := by
  unfold verifyExpandedWithOptions
  rw [h.newExpandedPublicKey_eq]
  cases newExpandedPublicKey I pk with
  | none => rfl
  | some xk => simp only [Option.map_some, h.verifyExpanded_eq]

end Hom

theorem val_hom : Hom onCurve concrete (Subtype.val : CurvePt → Pt) where
  zero := rfl
  add := fun _ _ => rfl
  neg := fun _ => rfl
  smul := fun _ _ => rfl
  B := rfl
  decode := fun b => (decode_val b).symm
  encode := fun _ => rfl
  isCanonicalEnc := rfl
  isSmallOrder := fun _ => rfl
  L := rfl
  scMinimal := rfl
  hash512 := rfl
  shortVec := rfl

theorem verify_onCurve_eq_concrete (o : VOpts) (f : Dom) (ctx pk msg sig : Bytes) :
    verify onCurve o f ctx pk msg sig = verify concrete o f ctx pk msg sig :=
  (val_hom.verify_eq o f ctx pk msg sig).symm

theorem specG_onCurve_eq_concrete (o : VOpts) (f : Dom) (ctx pk msg sig : Bytes) :
    SpecG.verify onCurve o f ctx pk msg sig = SpecG.verify concrete o f ctx pk msg sig :=
  (val_hom.specG_verify_eq o f ctx pk msg sig).symm

theorem specG_onCurve_eq_spec (o : VOpts) (f : Dom) (ctx pk msg sig : Bytes) :
    SpecG.verify onCurve o f ctx pk msg sig = Voi.Spec.Ed25519.verify o f ctx pk msg sig := by
  rw [specG_onCurve_eq_concrete, specG_concrete]

theorem signWith_onCurve_eq_concrete (f : Dom) (ctx : Bytes) (a r : ℕ) (aBytes msg : Bytes) :
    SpecG.signWith onCurve f ctx a r aBytes msg = SpecG.signWith concrete f ctx a r aBytes msg :=
  (val_hom.signWith_eq f ctx a r aBytes msg).symm

example : onCurve.decode Voi.Props.C10.encB = some Bc :=
  (decode_some (by decide +kernel : Pt.decode Voi.Props.C10.encB = some Pt.B))
example : (8 : ℕ) • Bc ≠ 0 :=
  Voi.Props.C02.not_smallOrder_of_order onCurve onCurve_laws onCurve_orderExact (a := 1)
    (by decide) |> fun h => by simpa using h
example : ShortVecOK onCurve Voi.Props.LatticeInv.kEx := onCurve_shortVecOK (by decide)
/-- the group on `CurvePt` is the executable one -/
example (P Q : CurvePt) : (P + Q).1 = Pt.add P.1 Q.1 := rfl
example (n : ℕ) (P : CurvePt) : (n • P).1 = Pt.smul n P.1 := rfl

end Voi.Proofs.ConcreteIface

section Axioms
open Voi.Proofs.ConcreteIface
#print axioms instAddCommGroupCurvePt
#print axioms onCurve_laws
#print axioms onCurve_expHyp
#print axioms onCurve_shortVecOK
#print axioms onCurve_orderExact
#print axioms Hom.verify_eq
#print axioms Hom.specG_verify_eq
#print axioms Hom.signWith_eq
#print axioms Hom.verifyExpanded_eq
#print axioms val_hom
#print axioms verify_onCurve_eq_concrete
#print axioms specG_onCurve_eq_spec
end Axioms
